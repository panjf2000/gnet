import Gnet.Props.C10
#print axioms Gnet.Props.C10.ering_step_refines
#print axioms Gnet.Props.C10.ering_run_refines
#print axioms Gnet.Props.C10.elastic_step_refines
#print axioms Gnet.Props.C10.elastic_run_refines
#print axioms Gnet.Props.C10.elastic_counters
#print axioms Gnet.Props.C10.ering_counters
#print axioms Gnet.Props.C10.ering_inst_fresh
