import Gnet.Props.C05
#print axioms Gnet.Props.C05.ownership_table_audited
#print axioms Gnet.Props.C05.exceptions_not_stale
#print axioms Gnet.Props.C05.shared_state_atomic
#print axioms Gnet.Props.C05.shared_fields_exist
