import Gnet.Props.C13
#print axioms Gnet.Props.C13.msq_fifo
#print axioms Gnet.Props.C13.msq_dequeue_order
#print axioms Gnet.Props.C13.msq_at_most_once
#print axioms Gnet.Props.C13.msq_drained_exactly_once
#print axioms Gnet.Props.C13.msq_abs_is_chain
#print axioms Gnet.Props.C13.msq_deq_value
#print axioms Gnet.Props.C13.msq_empty_justified
#print axioms Gnet.Props.C13.msq_length_lag
#print axioms Gnet.Props.C13.msq_quiescent
#print axioms Gnet.Props.C13.msq_no_nil_deref
#print axioms Gnet.Props.C13.msq_tail_lag
