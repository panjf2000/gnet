import Gnet.Props.C20
#print axioms Gnet.Props.C20.ispow2_spec
#print axioms Gnet.Props.C20.ceil_spec
#print axioms Gnet.Props.C20.ceil_panics
#print axioms Gnet.Props.C20.ceil_eq_ceilPow2
#print axioms Gnet.Props.C20.floor_spec
#print axioms Gnet.Props.C20.closest_spec_partial
#print axioms Gnet.Props.C20.closest_counterexample
#print axioms Gnet.Props.C20.ceil_idempotent
#print axioms Gnet.Props.C20.floor_le_ceil
#print axioms Gnet.Props.C20.ceil_monotone
#print axioms Gnet.Props.C20.floor_monotone
#print axioms Gnet.Props.C20.roundings_are_pow2
#print axioms Gnet.Props.C20.bs_index_spec
#print axioms Gnet.Props.C20.bs_index_monotone
#print axioms Gnet.Props.C20.bs_index_tight
#print axioms Gnet.Props.C20.gfd_roundtrip
#print axioms Gnet.Props.C20.gfd_update
