import Gnet.Props.C09
#print axioms Gnet.Props.C09.ring_new_wf
#print axioms Gnet.Props.C09.ring_new_empty
#print axioms Gnet.Props.C09.ring_step_refines
#print axioms Gnet.Props.C09.ring_run_refines
#print axioms Gnet.Props.C09.ring_counters
#print axioms Gnet.Props.C09.ring_peek_prefix
