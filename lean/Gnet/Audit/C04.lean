import Gnet.Props.C04
#print axioms Gnet.Props.C04.lifecycle
#print axioms Gnet.Props.C04.lifecycle_init
#print axioms Gnet.Props.C04.lifecycle_all_histories
