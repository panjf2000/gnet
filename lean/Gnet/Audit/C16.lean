import Gnet.Props.C16
#print axioms Gnet.Props.C16.norm_read_cap_server
#print axioms Gnet.Props.C16.norm_cap_idempotent
#print axioms Gnet.Props.C16.norm_caps_agree
#print axioms Gnet.Props.C16.chunk_spec
#print axioms Gnet.Props.C16.evloops_spec
#print axioms Gnet.Props.C16.dispatch_total
#print axioms Gnet.Props.C16.dispatch_ip
#print axioms Gnet.Props.C16.dispatch_unix
#print axioms Gnet.Props.C16.dispatch_errors
#print axioms Gnet.Props.C16.parse_ip_exact
#print axioms Gnet.Props.C16.v6_forms
#print axioms Gnet.Props.C16.parse_unix_exact
#print axioms Gnet.Props.C16.parse_unix_clean
#print axioms Gnet.Props.C16.parse_total
#print axioms Gnet.Props.C16.parse_unknown_scheme
#print axioms Gnet.Props.C16.parse_no_scheme
#print axioms Gnet.Props.C16.parse_no_scheme_name
