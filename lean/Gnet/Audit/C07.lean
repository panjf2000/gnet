import Gnet.Props.C07
#print axioms Gnet.Props.C07.fd_discipline
#print axioms Gnet.Props.C07.fd_discipline_all_histories
#print axioms Gnet.Props.C07.handover_partition
#print axioms Gnet.Props.C07.pending_only_on_running_loops
#print axioms Gnet.Props.C07.final_no_leak
#print axioms Gnet.Props.C07.nothing_stranded
#print axioms Gnet.Props.C07.drain_partition
#print axioms Gnet.Props.C07.nothing_stranded2
#print axioms Gnet.Props.C07.drain2_partition
#print axioms Gnet.Props.C07.quiescent_all_settled2
#print axioms Gnet.Props.C07.no_abort_before_exit
#print axioms Gnet.Props.C07.drain_order_embeds
#print axioms Gnet.Props.C07.coded_order_nothing_stranded
#print axioms Gnet.Props.C07.stranded_if_load_before_hand
#print axioms Gnet.Props.C07.stranded_if_drain_before_store
#print axioms Gnet.Props.C07.drain_protocol_followed
#print axioms Gnet.Props.C07.stop_order_followed
