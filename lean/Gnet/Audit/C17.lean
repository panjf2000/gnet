import Gnet.Props.C17
#print axioms Gnet.Props.C17.roundtrip_v4
#print axioms Gnet.Props.C17.roundtrip_v6_name
#print axioms Gnet.Props.C17.roundtrip_v6_nozone
#print axioms Gnet.Props.C17.roundtrip_v6_numeric
#print axioms Gnet.Props.C17.dtoi_itod
#print axioms Gnet.Props.C17.invalid_length_nil
#print axioms Gnet.Props.C17.unix_roundtrip
#print axioms Gnet.Props.C17.unix_unsupported_nil
