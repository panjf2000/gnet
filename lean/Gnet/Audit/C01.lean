import Gnet.Props.C01
#print axioms Gnet.Props.C01.inbound_integrity
#print axioms Gnet.Props.C01.inbound_init
#print axioms Gnet.Props.C01.inbound_integrity_all_histories
#print axioms Gnet.Props.C01.inbound_buffer_is_fifo
#print axioms Gnet.Props.C01.ring_is_fifo
