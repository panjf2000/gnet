import Gnet.Props.C02
#print axioms Gnet.Props.C02.outbound_integrity
#print axioms Gnet.Props.C02.outbound_init
#print axioms Gnet.Props.C02.outbound_integrity_all_histories
#print axioms Gnet.Props.C02.outbound_buffer_is_fifo
#print axioms Gnet.Props.C02.overflow_list_is_fifo
