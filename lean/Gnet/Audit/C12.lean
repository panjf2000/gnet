import Gnet.Props.C12
#print axioms Gnet.Props.C12.pool_get_shape
#print axioms Gnet.Props.C12.pool_get_tight
#print axioms Gnet.Props.C12.pool_put_same_class
#print axioms Gnet.Props.C12.pool_get_nil
#print axioms Gnet.Props.C12.pool_put_within
#print axioms Gnet.Props.C12.pool_inv_init
#print axioms Gnet.Props.C12.pool_inv_get
#print axioms Gnet.Props.C12.pool_inv_foreign
#print axioms Gnet.Props.C12.pool_inv_put
#print axioms Gnet.Props.C12.pool_inv_gc
#print axioms Gnet.Props.C12.pool_no_alias
#print axioms Gnet.Props.C12.pool_run_inv
#print axioms Gnet.Props.C12.put_sites_audited
