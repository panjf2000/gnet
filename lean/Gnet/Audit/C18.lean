import Gnet.Props.C18
#print axioms Gnet.Props.C18.fault_isolation
#print axioms Gnet.Props.C18.close_isolation
#print axioms Gnet.Props.C18.read_error_closes
