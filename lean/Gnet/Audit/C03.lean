import Gnet.Props.C03
#print axioms Gnet.Props.C03.wake_queues_reachable
#print axioms Gnet.Props.C03.wake_no_lost
#print axioms Gnet.Props.C03.wake_blocked_empty
#print axioms Gnet.Props.C03.wake_exactly_once_urgent
#print axioms Gnet.Props.C03.wake_exactly_once_low
#print axioms Gnet.Props.C03.wake_high_priority_urgent
#print axioms Gnet.Props.C03.wake_flag
#print axioms Gnet.Props.C03.wake_never_stuck
