import Gnet.Props.C11
#print axioms Gnet.Props.C11.ll_empty_wf
#print axioms Gnet.Props.C11.ll_step_refines
#print axioms Gnet.Props.C11.ll_run_refines
#print axioms Gnet.Props.C11.ll_counters
#print axioms Gnet.Props.C11.ll_copy_semantics
