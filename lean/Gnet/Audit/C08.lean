import Gnet.Props.C08
#print axioms Gnet.Props.C08.udp_one_event
