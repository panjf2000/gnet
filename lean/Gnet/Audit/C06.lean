import Gnet.Props.C06
#print axioms Gnet.Props.C06.shutdown_complete
#print axioms Gnet.Props.C06.run_returns_after_flag
#print axioms Gnet.Props.C06.final
#print axioms Gnet.Props.C06.callbacks_once
#print axioms Gnet.Props.C06.shutdown_terminates
#print axioms Gnet.Props.C06.action_shutdown_requests
#print axioms Gnet.Props.C06.stopper_order
#print axioms Gnet.Props.C06.stop_order_followed
