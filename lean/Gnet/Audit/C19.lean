import Gnet.Props.C19
#print axioms Gnet.Props.C19.api_never
#print axioms Gnet.Props.C19.api_running
#print axioms Gnet.Props.C19.api_down
#print axioms Gnet.Props.C19.api_booting_register
#print axioms Gnet.Props.C19.request_is_final
#print axioms Gnet.Props.C19.flag_only_at_end
#print axioms Gnet.Props.C19.api_multi
#print axioms Gnet.Props.C19.results_at_most_once
#print axioms Gnet.Props.C19.unanswered_are_pending
#print axioms Gnet.Props.C19.final_all_answered
#print axioms Gnet.Props.C19.failed_results
#print axioms Gnet.Props.C19.no_enrolment_after_flag
#print axioms Gnet.Props.C19.stop_order_followed
