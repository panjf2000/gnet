import Gnet.Props.C15
#print axioms Gnet.Props.C15.rr_cyclic
#print axioms Gnet.Props.C15.rr_fair
#print axioms Gnet.Props.C15.rr_window
#print axioms Gnet.Props.C15.lc_minimal
#print axioms Gnet.Props.C15.lc_keeps_balanced
#print axioms Gnet.Props.C15.lc_run_balanced
#print axioms Gnet.Props.C15.hash_in_range
#print axioms Gnet.Props.C15.hash_pure
#print axioms Gnet.Props.C15.rr_in_range
#print axioms Gnet.Props.C15.opened_on_assigned_loop
#print axioms Gnet.Props.C15.running_loop_serves
