import Gnet.Props.C14
#print axioms Gnet.Props.C14.matrix_run_refines
#print axioms Gnet.Props.C14.map_run_refines
#print axioms Gnet.Props.C14.spec_keys_distinct
#print axioms Gnet.Props.C14.matrix_cols_one_counterexample
