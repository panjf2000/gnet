/-
  C12: pooled memory is exclusively owned: no aliasing, no out-of-bounds.
  Only property theorems, the audited call-site table and non-vacuity examples live here;
  helper lemmas are in Gnet/Proofs/Pool.lean. Statements are never weakened to make a proof pass.
-/
import Gnet.Model.Pool
import Gnet.Gen.Facts
import Gnet.Proofs.Pool
namespace Gnet.Props.C12
open Gnet

/-- `Get(n)` for `0 < n ≤ MaxInt32`: exactly the requested length, capacity `2^class ≥ n`,
    whatever `sync.Pool` hands back. -/
theorem pool_get_shape (p : BsPool) (n : Int) (c : Option Nat) (h0 : 0 < n) (h1 : n ≤ 2147483647) :
    ∃ s, (p.get n c).2 = some s ∧ s.len = n.toNat ∧ s.cap = 2 ^ BsPool.classOf n.toNat ∧ n.toNat ≤ s.cap :=
  Proofs.Pool.get_shape p n c h0 h1

/-- `Get(n)` never hands out (and so never pins) a region of twice the requested size or more:
    `n ≤ cap < 2n` -/
theorem pool_get_tight (p : BsPool) (n : Int) (c : Option Nat) (h0 : 0 < n) (h1 : n ≤ 2147483647) :
    ∃ s, (p.get n c).2 = some s ∧ n.toNat ≤ s.cap ∧ s.cap < 2 * n.toNat := by
  obtain ⟨s, hs, _, hcap, hle⟩ := Proofs.Pool.get_shape p n c h0 h1
  exact ⟨s, hs, hle, hcap ▸ Proofs.Pool.classOf_lt n.toNat (Int.lt_toNat.2 h0)
    (Int.toNat_le.2 (Int.le_trans h1 (by decide)))⟩

/-- no class drift: a slice whose capacity is a class capacity `2^i` (every slice `Get` hands out)
    is filed by `Put` under exactly that class `i`, so it is found again by a `Get` of that class -/
theorem pool_put_same_class (i : Nat) (hi : i ≤ 31) :
    BsPool.classOf (2 ^ i) = i ∧ BsPool.putClass (2 ^ i) = i := by
  obtain ⟨h1, hmin⟩ := Proofs.Pool.classOf_spec (2 ^ i) Nat.one_le_two_pow (Nat.pow_le_pow_right (by decide) hi)
  have he : BsPool.classOf (2 ^ i) = i :=
    Nat.le_antisymm (hmin i (Nat.le_refl _)) (Proofs.Bits.pow_le_pow_iff.1 h1)
  exact ⟨he, by simp [BsPool.putClass, he]⟩
theorem pool_get_nil (p : BsPool) (n : Int) (c : Option Nat) (h : n ≤ 0) : (p.get n c).2 = none :=
  Proofs.Pool.get_nil p n c h

/-- `Put` of a slice of ANY capacity (power of two or not, re-sliced tail, foreign memory) files
    its pointer under a class whose capacity does not exceed the slice's own capacity: a later
    `Get` can never reach beyond the memory the `Put` slice owned. -/
theorem pool_put_within (cap : Nat) (h0 : 0 < cap) (h1 : cap ≤ 2147483647) :
    2 ^ BsPool.putClass cap ≤ cap :=
  Proofs.Pool.put_within cap h0 h1

/-- the invariant: every stored pointer's class-sized region and every outstanding slice's
    capacity region lie inside their allocation and are pairwise disjoint -/
theorem pool_inv_init : Proofs.Pool.Inv BsPool.init := Proofs.Pool.inv_iff.2 .init

theorem pool_inv_get (p : BsPool) (n : Int) (c : Option Nat) (h : Proofs.Pool.Inv p) :
    Proofs.Pool.Inv (p.get n c).1 :=
  Proofs.Pool.inv_iff.2 ((Proofs.Pool.inv_iff.1 h).get n c)

theorem pool_inv_foreign (p : BsPool) (n : Nat) (h : Proofs.Pool.Inv p) : Proofs.Pool.Inv (p.foreign n).1 :=
  Proofs.Pool.inv_iff.2 ((Proofs.Pool.inv_iff.1 h).foreign n)

/-- `Put` under the caller discipline: `buf` is cut from an outstanding slice `owner` that the
    caller gives up with this call (so it is put at most once and not used afterwards) -/
theorem pool_inv_put (p : BsPool) (tag : Nat) (buf owner : Slice) (h : Proofs.Pool.Inv p)
    (ho : owner ∈ p.out) (ha : buf.alloc = owner.alloc)
    (hlo : owner.off ≤ buf.off) (hhi : buf.off + buf.cap ≤ owner.off + owner.cap) :
    Proofs.Pool.Inv (p.put tag buf (some owner)) :=
  Proofs.Pool.inv_iff.2 ((Proofs.Pool.inv_iff.1 h).put tag buf owner ho ha hlo hhi)

theorem pool_inv_gc (p : BsPool) (keep : Stored → Bool) (h : Proofs.Pool.Inv p) : Proofs.Pool.Inv (p.gc keep) :=
  Proofs.Pool.inv_iff.2 ((Proofs.Pool.inv_iff.1 h).gc keep)

/-- hence: two slices handed out and not yet returned never share memory, and a slice just
    obtained shares memory with no other outstanding slice -/
theorem pool_no_alias (p : BsPool) (h : Proofs.Pool.Inv p) :
    p.out.Pairwise (fun a b => Proofs.Pool.Disjoint a.alloc a.off a.cap b.alloc b.off b.cap) :=
  (Proofs.Pool.inv_iff.1 h).dOO

/-- all histories that follow the discipline, all pool choices, all collections -/
theorem pool_run_inv (ops : List Proofs.Pool.PoolOp) (hd : Proofs.Pool.Disciplined BsPool.init ops) :
    Proofs.Pool.Inv (Proofs.Pool.run BsPool.init ops) :=
  Proofs.Pool.inv_iff.2 (Proofs.Pool.run_inv' ops _ .init hd)

/-- The caller discipline at gnet's own `byteslice.Put` sites: the table is REGENERATED from
    the source (Facts.poolSites); each site carries a hand-written justification. A new, moved or
    changed `Put` site breaks this theorem. (An audited argument, not a proof about Go.) -/
def auditedPutSites : List (String × String × String × String × String) := [
  ("connection_unix.go", "*conn.Discard", "byteslice.Put", "c.cache", "cache was obtained by Get in Next/Peek, owned by the connection, set to nil right after"),
  ("pkg/buffer/linkedlist/linked_list_buffer.go", "*Buffer.Discard", "byteslice.Put", "b.buf", "node popped from the list, not re-linked; for Append-ed nodes the memory is the caller's (documented contract of Append)"),
  ("pkg/buffer/linkedlist/linked_list_buffer.go", "*Buffer.FreeNode", "byteslice.Put", "p", "explicit API: caller states ownership"),
  ("pkg/buffer/linkedlist/linked_list_buffer.go", "*Buffer.ReadFrom", "byteslice.Put", "b", "buffer obtained by Get in the same iteration and not linked (zero bytes read)"),
  ("pkg/buffer/linkedlist/linked_list_buffer.go", "*Buffer.Read", "byteslice.Put", "b.buf", "node popped and fully copied out"),
  ("pkg/buffer/linkedlist/linked_list_buffer.go", "*Buffer.Reset", "byteslice.Put", "b.buf", "node popped, list dropped"),
  ("pkg/buffer/linkedlist/linked_list_buffer.go", "*Buffer.WriteTo", "byteslice.Put", "b.buf", "node popped and fully written"),
  ("pkg/buffer/ring/ring_buffer.go", "*Buffer.grow", "byteslice.Put", "rb.buf", "old backing array, replaced by the new one in the next statement")
]

theorem put_sites_audited :
    (Facts.poolSites.filter (fun s => s.2.2.1 == "byteslice.Put")) =
    auditedPutSites.map (fun s => (s.1, s.2.1, s.2.2.1, s.2.2.2.1)) :=
  Proofs.Pool.put_sites_audited auditedPutSites rfl

-- non-vacuity: a miss on the fresh pool allocates, and the slice is recorded as outstanding
example : ((BsPool.init.get 100 none).1.out.length = 1) := by decide

end Gnet.Props.C12
