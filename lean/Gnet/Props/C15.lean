/-
  C15: load balancing follows the selected policy.
  Only property theorems and non-vacuity examples live here; helper lemmas are in
  Gnet/Proofs/LB.lean. Statements are never weakened to make a proof pass.
-/
import Gnet.Model.LB
import Gnet.Proofs.LB
import Gnet.Props.Handover
namespace Gnet.Props.C15
open Gnet

/-- Round robin: `k` consecutive calls from counter value `s` go to loops
    `(s + i) mod 2^64 mod N`, i = 0..k-1 (cyclic assignment). -/
theorem rr_cyclic (lb : LB) (hn : 0 < lb.size) (k : Nat) :
    Proofs.LB.rrRun lb k = (List.range k).map (fun i => (lb.nextIndex.toNat + i) % 2 ^ 64 % lb.size) :=
  Proofs.LB.rr_cyclic lb hn k

/-- after `k*N` accepts from a fresh balancer every one of the `N` loops has received exactly `k` -/
theorem rr_fair (counts : List Int) (hn : 0 < counts.length) (k : Nat) (hk : k * counts.length < 2 ^ 64)
    (j : Nat) (hj : j < counts.length) :
    (Proofs.LB.rrRun ⟨counts, 0⟩ (k * counts.length)).count j = k :=
  Proofs.LB.rr_fair counts hn k hk j hj

/-- any window of `N` consecutive round-robin choices, from any counter value that does not wrap
    inside the window, hands exactly one connection to each of the `N` loops -/
theorem rr_window (lb : LB) (hn : 0 < lb.size) (hw : lb.nextIndex.toNat + lb.size ≤ 2 ^ 64)
    (j : Nat) (hj : j < lb.size) : (Proofs.LB.rrRun lb lb.size).count j = 1 :=
  Proofs.LB.rr_window lb hn hw j hj

/-- least connections returns a registered loop whose count is minimal (the first such loop) -/
theorem lc_minimal (lb : LB) (hn : 0 < lb.size) :
    ∃ i, lb.lcNext = some i ∧ i < lb.size ∧
      (∀ j, j < lb.size → lb.counts.getD i 0 ≤ lb.counts.getD j 0) ∧
      (∀ j, j < i → lb.counts.getD i 0 < lb.counts.getD j 0) :=
  Proofs.LB.lc_minimal lb hn

/-- least connections keeps the loops balanced: if no two loops differ by more than one connection
    and every accepted connection is counted on the loop `lcNext` chose (`eventloop.register`),
    then after the accept still no two loops differ by more than one -/
theorem lc_keeps_balanced (lb : LB) (hn : 0 < lb.size) (hb : Proofs.LB.Balanced lb) :
    ∃ i, lb.lcNext = some i ∧ Proofs.LB.Balanced (Proofs.LB.opened lb i) :=
  Proofs.LB.lc_keeps_balanced lb hn hb

/-- from a fresh engine (`n` loops, no connection) any number of accepts under least-connections
    leaves no two loops more than one connection apart -/
theorem lc_run_balanced (n k : Nat) : Proofs.LB.Balanced (Proofs.LB.lcRun ⟨List.replicate n 0, 0⟩ k) :=
  Proofs.LB.lcRun_balanced _ (Proofs.LB.fresh_balanced n) k

/-- source-address hash: a registered loop, a pure function of (number of loops, address),
    and the sign branch of `hash` is dead on 64-bit ints -/
theorem hash_in_range (lb : LB) (hn : 0 < lb.size) (addr : List UInt8) :
    ∃ i, lb.hashNext addr = some i ∧ i < lb.size ∧ i = (Crc32.checksum addr).toNat % lb.size :=
  Proofs.LB.hash_in_range lb hn addr

theorem hash_pure (lb lb' : LB) (h : lb.size = lb'.size) (addr : List UInt8) :
    lb.hashNext addr = lb'.hashNext addr :=
  Proofs.LB.hash_pure lb lb' h addr

/-- every policy returns one of the registered loops for every N ≥ 1 (and panics only for N = 0) -/
theorem rr_in_range (lb : LB) (hn : 0 < lb.size) : ∃ i lb', lb.rrNext = some (i, lb') ∧ i < lb.size ∧
    lb'.counts = lb.counts ∧ lb'.nextIndex = lb.nextIndex + 1 :=
  Proofs.LB.rr_in_range lb hn

-- non-vacuity
example : Proofs.LB.rrRun ⟨[0, 0, 0], 0⟩ 7 = [0, 1, 2, 0, 1, 2, 0] := by decide
example : (⟨[3, 1, 2, 1], 0⟩ : LB).lcNext = some 1 := by decide
example : Proofs.LB.rrRun ⟨[0, 0, 0], 5⟩ 3 = [2, 0, 1] := by decide
example : (Proofs.LB.lcRun ⟨List.replicate 3 0, 0⟩ 7).counts = [3, 2, 2] := by decide
example : (Proofs.LB.opened ⟨[2, 1, 2, 1], 0⟩ 1).counts = [2, 2, 2, 1] := by decide
example : Proofs.LB.Balanced ⟨[2, 1, 2, 1], 0⟩ := by
  have : ∀ j, j < 4 → ∀ k, k < 4 →
      ([2, 1, 2, 1] : List Int).getD j 0 ≤ [2, 1, 2, 1].getD k 0 + 1 := by decide
  exact fun j k hj hk => this j hj k hk

/-- last clause of C15 ("the loop a connection is assigned to is the loop on which all of its callbacks run"),
on the hand-over model: OnOpen runs at most once per descriptor and on the loop the balancer chose. -/
theorem opened_on_assigned_loop (s : Handover.State) (h : Handover.Reachable s) :
    (∀ p ∈ s.opened, p ∈ s.assigned) ∧ (s.opened.map Prod.fst).Nodup ∧ s.assigned.map Prod.fst = Handover.created s :=
  Props.Handover.opened_on_assigned_loop s h

/-- a loop that keeps running serves every registration handed to it -/
theorem running_loop_serves (s : Handover.State) (l : Nat) (x : Handover.Loop) (hx : s.loops[l]? = some x) (hr : x.running = true)
    (pre rest : List Handover.Task) (fd : Nat) (hq : x.queue = pre ++ Handover.Task.register fd :: rest)
    (hns : Handover.Task.sentinel ∉ pre) :
    (fd, l) ∈ (Handover.run s (List.replicate (pre.length + 1) (Handover.Step.exec l))).opened :=
  Props.Handover.running_loop_serves s l x hx hr pre rest fd hq hns

end Gnet.Props.C15
