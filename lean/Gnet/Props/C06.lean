/-
  C06 (graceful shutdown is complete, bounded and final)
  on the engine model (Gnet/Model/Engine.lean). Small-step statements hold in every reachable
  state: any number of loops, ticker on or off, any interleaving of accepts, traffic, peer
  closes, shutdown requests from any source (also several racing), and the steps of the
  `stop` goroutine, the loops and the ticker.
-/
import Gnet.Model.Engine
import Gnet.Proofs.Engine
import Gnet.Proofs.StopOrder
import Gnet.Gen.Facts
namespace Gnet.Props.C06
open Gnet.Engine

/-- COMPLETE: once the shutdown flag is set every loop and the ticker have exited, every
    connection that was opened has received its OnClose, and OnShutdown ran exactly once -/
theorem shutdown_complete (s : State) (h : Reachable s) (hs : s.inShutdown = true) :
    (∀ l ∈ s.loops, l.st = .exited ∧ l.conns = []) ∧ s.tickerAlive = false ∧
    s.trace.count .shutdown = 1 ∧ openIn s.trace = [] :=
  Proofs.Engine.shutdown_complete s h hs

/-- `Run` returns only after the flag is set -/
theorem run_returns_after_flag (s : State) (h : Reachable s) (hr : s.stopPc = .returned) : s.inShutdown = true :=
  Proofs.Engine.run_returns_after_flag s h hr

/-- FINAL: after `Run` has returned no step of any goroutine invokes a callback any more -/
theorem final (s : State) (h : Reachable s) (hr : s.stopPc = .returned) (a : Step) :
    (step s a).trace = s.trace :=
  Proofs.Engine.final s h hr a

/-- OnShutdown never runs twice, and connections are opened once and closed at most once -/
theorem callbacks_once (s : State) (h : Reachable s) :
    s.trace.count .shutdown ≤ 1 ∧
    (∀ c, s.trace.count (.open c) ≤ 1 ∧ s.trace.count (.close c) ≤ s.trace.count (.open c)) ∧
    (openIn s.trace).Perm (s.loops.flatMap (·.conns)) :=
  Proofs.Engine.callbacks_once s h

/-- BOUNDED (as absence of stuck states): once shutdown has been requested there is always a
    continuation in which `Run` returns; its length is bounded by the work left -/
theorem shutdown_terminates (s : State) (h : Reachable s) (hc : s.ctxCancelled = true) :
    ∃ steps, (run s steps).stopPc = .returned ∧
      steps.length ≤ 8 + 3 * s.loops.length + (s.loops.map (·.conns.length)).sum :=
  Proofs.Engine.shutdown_terminates s h hc

/-- a Shutdown action inside a callback leads to a shutdown request: the exiting loop itself
    cancels the context -/
theorem action_shutdown_requests (s : State) (l : Nat) (x : Loop) (hx : s.loops[l]? = some x)
    (hc : x.st = .closing) (he : x.conns = []) : (step s (.loopExit l)).ctxCancelled = true :=
  Proofs.Engine.action_shutdown_requests s l x hx hc he

-- non-vacuity: a life with two loops, a connection on each, a shutdown by action on loop 0
example : let s := run (init 2 true) [.accept 0, .accept 1, .traffic 1 1, .actionShutdown 0, .closeOne 0, .loopExit 0,
      .stopper, .stopper, .stopper, .runSentinel 1, .closeOne 1, .loopExit 1, .tickerExit, .stopper, .stopper, .stopper]
    (s.inShutdown, s.stopPc, s.trace) =
      (true, StopPc.returned, [.open 0, .open 1, .traffic 1, .close 0, .shutdown, .close 1]) := by decide +kernel

/-! ### The order of the statements of `engine.stop` / `Client.Stop` (tie: regenerated table `Facts.stopSites`)

The theorems above are about a stopper that waits for the request, runs OnShutdown, posts the shutdown tasks, waits for
the loops and the ticker, closes the pollers and listeners and only then sets the flag - in that order
(`stopper_order`). The calls the two functions make, in source order, are extracted from the current tree on every
run; `stop_order_followed` demands that they are exactly those statements in that order (nothing added, dropped or
moved; logging left out). (Source order of calls, not a proof about Go control flow.) -/

theorem stopper_order (s : State) (h0 : s.stopPc = .waitCtx) (hc : s.ctxCancelled = true) (he : allExited s = true) :
    (List.range 7).map (StopOrder.pcAfter s) = StopOrder.order ++ [.returned] :=
  Proofs.StopOrder.stopper_order s h0 hc he

theorem stop_order_followed : StopOrder.followed Facts.stopSites = true := by decide +kernel

-- the predicate is not trivially true: listeners closed right after OnShutdown (an extra call) are rejected
example : StopOrder.followed
    [("*engine.stop", ["Done", "OnShutdown", "close", "Trigger", "iterate", "Trigger", "Wait", "closeEventLoops", "Store"]),
     ("*Client.Stop", ["shutdown", "OnShutdown", "Trigger", "iterate", "Wait", "closeEventLoops", "Store"])] = false := by
  decide +kernel

-- ... and so is the flag set before the loops have been waited for
example : StopOrder.followed
    [("*engine.stop", ["Done", "OnShutdown", "Trigger", "iterate", "Trigger", "Store", "Wait", "closeEventLoops"]),
     ("*Client.Stop", ["shutdown", "OnShutdown", "Trigger", "iterate", "Wait", "closeEventLoops", "Store"])] = false := by
  decide +kernel

-- non-vacuity of `stopper_order`
example : let s := run (init 0 false) [.requestStop]
    s.stopPc = .waitCtx ∧ s.ctxCancelled = true ∧ allExited s = true := by decide

end Gnet.Props.C06

