/-
  FIXED STATEMENTS (do not edit): the drain-and-abort protocol between the producers of registration tasks and an
  event loop that shuts down (Model/Drain.lean). Proved in Gnet/Proofs/Drain.lean.
-/
import Gnet.Model.Drain
import Gnet.Proofs.Drain
namespace Gnet.Props.Drain
open Gnet.Drain

/-- every task ever enqueued is in exactly one place - carried out by the loop, aborted by somebody, or still in
the queue - and there exactly once -/
theorem drain_partition (s : State) (h : Reachable s) :
    (s.ran ++ s.aborted ++ s.queue).Perm (List.range s.next) :=
  (Proofs.Drain.inv_reachable h).perm

/-- no registration is stranded: once the loop has finished its drain and every producer has finished its
re-check, the queue is empty - whatever the interleaving, however many producers -/
theorem nothing_stranded (s : State) (h : Reachable s) (hq : Quiescent s = true) : s.queue = [] :=
  Proofs.Drain.nothing_stranded s h hq

/-- ... so every task was carried out or aborted, exactly once -/
theorem quiescent_all_settled (s : State) (h : Reachable s) (hq : Quiescent s = true) :
    (s.ran ++ s.aborted).Perm (List.range s.next) := by
  have hp := drain_partition s h
  rwa [nothing_stranded s h hq, List.append_nil] at hp

/-- the loop carries tasks out in the order they were enqueued, and aborts nothing while it is polling -/
theorem ran_in_order (s : State) (h : Reachable s) : s.ran.Pairwise (· < ·) :=
  Proofs.Drain.ran_in_order s h

-- non-vacuity: a producer that enqueues after the loop finished its own drain finds `exited` set and aborts its task
example :
    let s := run (init 2) [.enqueue 0, .load 0, .loopRun, .loopLeave, .enqueue 1, .loopSetExited, .loopDrain, .loopDrain,
                           .load 1, .prodDrain 1, .enqueue 0, .load 0, .prodDrain 0, .prodDrain 0]
    Quiescent s = true ∧ s.ran = [0] ∧ s.aborted = [1, 2] ∧ s.queue = [] := by decide

-- the re-check is what makes it work: without the producer's drain the task enqueued after the loop's drain stays
example :
    let s := run (init 1) [.loopLeave, .loopSetExited, .loopDrain, .enqueue 0]
    s.loop = .done ∧ s.queue = [0] ∧ Quiescent s = false := by decide

end Gnet.Props.Drain
