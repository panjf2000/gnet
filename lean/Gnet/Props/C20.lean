/-
  C20: power-of-two and index arithmetic is exact over the whole integer range.
  The definitions in `Gnet.Gen` are REGENERATED from the Go source on every run
  (tools/cmd/gotolean); `none` = the Go function panics; Go `int` = `BitVec 64`.
  Only property theorems and non-vacuity examples live here; helper lemmas are in
  Gnet/Proofs/Bits.lean, Arith.lean and Gfd.lean. Statements are never weakened to make a proof pass.
-/
import Gnet.Basic
import Gnet.Gen.Arith
import Gnet.Model.Gfd
import Gnet.Proofs.Arith
import Gnet.Proofs.Gfd
namespace Gnet.Props.C20
open Gnet Proofs.Arith Proofs.Bits

/-- `IsPowerOfTwo` is true exactly for `2^k`. -/
theorem ispow2_spec (n : BitVec 64) :
    ∃ b, Gen.IsPowerOfTwo n = some b ∧ (b = true ↔ Proofs.Arith.IsPow2 n.toInt) :=
  Proofs.Arith.ispow2_spec n

/-- `CeilToPowerOfTwo`: the smallest power of two `≥ max n 2`, whenever one fits an `int`. -/
theorem ceil_spec (n : BitVec 64) (h : n.toInt ≤ 2 ^ 62) :
    ∃ r, Gen.CeilToPowerOfTwo n = some r ∧ Proofs.Arith.IsPow2 r.toInt ∧ max n.toInt 2 ≤ r.toInt ∧
      ∀ p : Int, Proofs.Arith.IsPow2 p → max n.toInt 2 ≤ p → r.toInt ≤ p :=
  Proofs.Arith.ceil_spec n h

/-- it panics only when no such `int` exists -/
theorem ceil_panics (n : BitVec 64) : Gen.CeilToPowerOfTwo n = none ↔ 2 ^ 62 < n.toInt :=
  Proofs.Arith.ceil_panics n

/-- the `Nat`-level function used by the buffer models is the generated one -/
theorem ceil_eq_ceilPow2 (n : Nat) (h : n ≤ 2 ^ 62) :
    Gen.CeilToPowerOfTwo (BitVec.ofNat 64 n) = some (BitVec.ofNat 64 (ceilPow2 n)) :=
  Proofs.Arith.ceil_eq_ceilPow2 n h

/-- `FloorToPowerOfTwo`: `n` for `n ≤ 2`, else the largest power of two `≤ n`; never panics. -/
theorem floor_spec (n : BitVec 64) :
    ∃ r, Gen.FloorToPowerOfTwo n = some r ∧
      (n.toInt ≤ 2 → r = n) ∧
      (2 < n.toInt → Proofs.Arith.IsPow2 r.toInt ∧ r.toInt ≤ n.toInt ∧ n.toInt < 2 * r.toInt) :=
  Proofs.Arith.floor_spec n

/-- `ClosestPowerOfTwo` for `1 ≤ n ≤ 2^62`: the nearest power of two, the upper one on a tie.
    (`_partial`: for `2^62 < n` the Go function panics although for `n < 3*2^61` the nearer
    neighbour `2^62` exists - see `closest_counterexample` and known_findings.json.) -/
theorem closest_spec_partial (n : BitVec 64) (h1 : 1 ≤ n.toInt) (h2 : n.toInt ≤ 2 ^ 62) :
    ∃ r, Gen.ClosestPowerOfTwo n = some r ∧ Proofs.Arith.IsPow2 r.toInt ∧
      ∀ p : Int, Proofs.Arith.IsPow2 p →
        (Int.natAbs (n.toInt - r.toInt) ≤ Int.natAbs (n.toInt - p)) ∧
        (Int.natAbs (n.toInt - r.toInt) = Int.natAbs (n.toInt - p) → p ≤ r.toInt) :=
  Proofs.Arith.closest_spec_partial n h1 h2

/-- the full-strength statement fails at `2^62 + 1`: nearest power is `2^62`, the code panics -/
theorem closest_counterexample :
    Gen.ClosestPowerOfTwo (BitVec.ofNat 64 (2 ^ 62 + 1)) = none :=
  Proofs.Arith.closest_counterexample

/-- rounding up is idempotent: the result of `CeilToPowerOfTwo` is a fixed point of it
    (a buffer grown to a rounded capacity is never re-rounded to something larger) -/
theorem ceil_idempotent (n : BitVec 64) (h : n.toInt ≤ 2 ^ 62) :
    ∃ r, Gen.CeilToPowerOfTwo n = some r ∧ Gen.CeilToPowerOfTwo r = some r :=
  Proofs.Arith.ceil_idempotent n h

/-- for `3 ≤ n ≤ 2^62` the two roundings bracket `n`, and are within a factor two of it:
    `floor n ≤ n ≤ ceil n`, `n < 2 * floor n`, and `ceil n ≤ 2 * floor n` -/
theorem floor_le_ceil (n : BitVec 64) (h1 : 2 < n.toInt) (h2 : n.toInt ≤ 2 ^ 62) :
    ∃ f c, Gen.FloorToPowerOfTwo n = some f ∧ Gen.CeilToPowerOfTwo n = some c ∧
      f.toInt ≤ n.toInt ∧ n.toInt ≤ c.toInt ∧ n.toInt < 2 * f.toInt ∧ c.toInt ≤ 2 * f.toInt := by
  obtain ⟨f, hf, _, hf2⟩ := Proofs.Arith.floor_spec n
  obtain ⟨c, hc, _, hge, hmin⟩ := Proofs.Arith.ceil_spec n h2
  obtain ⟨⟨k, hk⟩, hfl, hfu⟩ := hf2 h1
  refine ⟨f, c, hf, hc, hfl, by omega, hfu, ?_⟩
  exact hmin (2 * f.toInt) ⟨k + 1, by rw [hk, Int.pow_succ]; omega⟩ (by omega)

/-- rounding up is monotone (a larger request never gets a smaller capacity) -/
theorem ceil_monotone (n m : BitVec 64) (hnm : n.toInt ≤ m.toInt) (hm : m.toInt ≤ 2 ^ 62) :
    ∃ a b, Gen.CeilToPowerOfTwo n = some a ∧ Gen.CeilToPowerOfTwo m = some b ∧ a.toInt ≤ b.toInt := by
  refine ⟨_, _, ceil_eq n (by omega), ceil_eq m hm, ?_⟩
  rw [toInt_ceilPow2 (by omega), toInt_ceilPow2 (by omega)]
  exact Int.ofNat_le.2 (ceilPow2_mono (Int.toNat_le_toNat hnm))

/-- rounding down is monotone over the whole `int` range (including `n ≤ 2`, returned unchanged) -/
theorem floor_monotone (n m : BitVec 64) (hnm : n.toInt ≤ m.toInt) :
    ∃ a b, Gen.FloorToPowerOfTwo n = some a ∧ Gen.FloorToPowerOfTwo m = some b ∧ a.toInt ≤ b.toInt := by
  by_cases hm : m.toInt ≤ 2
  · exact ⟨n, m, floor_small n (by omega), floor_small m hm, hnm⟩
  obtain ⟨b, hb, eb⟩ := floor_eq m (by omega)
  by_cases hn : n.toInt ≤ 2
  · have := pow_le_two_pow_log2 (j := 1) (m := m.toInt.toNat) (by omega) (by omega)
    exact ⟨n, b, floor_small n hn, hb, by rw [eb]; omega⟩
  · obtain ⟨a, ha, ea⟩ := floor_eq n (by omega)
    have := Nat.log2_self_le (n := n.toInt.toNat) (by omega)
    exact ⟨a, b, ha, hb, by rw [ea, eb]; exact Int.ofNat_le.2 (pow_le_two_pow_log2 (by omega) (by omega))⟩

/-- the two regenerated functions agree: whatever `CeilToPowerOfTwo` and (for `n > 2`)
    `FloorToPowerOfTwo` return is accepted by `IsPowerOfTwo` -/
theorem roundings_are_pow2 (n : BitVec 64) (h : n.toInt ≤ 2 ^ 62) :
    (∃ r, Gen.CeilToPowerOfTwo n = some r ∧ Gen.IsPowerOfTwo r = some true) ∧
    (2 < n.toInt → ∃ r, Gen.FloorToPowerOfTwo n = some r ∧ Gen.IsPowerOfTwo r = some true) := by
  constructor
  · obtain ⟨r, hr, hp, _⟩ := Proofs.Arith.ceil_spec n h
    obtain ⟨b, hb, hiff⟩ := Proofs.Arith.ispow2_spec r
    exact ⟨r, hr, by rw [hb, hiff.mpr hp]⟩
  · intro h2
    obtain ⟨r, hr, _, hf⟩ := Proofs.Arith.floor_spec n
    obtain ⟨b, hb, hiff⟩ := Proofs.Arith.ispow2_spec r
    exact ⟨r, hr, by rw [hb, hiff.mpr (hf h2).1]⟩

/-- byte-slice pool size class: the smallest class whose capacity `2^i` is at least the size -/
theorem bs_index_spec (s : BitVec 32) (h1 : 1 ≤ s.toNat) (h2 : s.toNat ≤ 2 ^ 31) :
    ∃ i, Gen.bsIndex s = some i ∧ s.toNat ≤ 2 ^ i.toNat ∧ ∀ j : Nat, s.toNat ≤ 2 ^ j → i.toNat ≤ j :=
  Proofs.Arith.bs_index_spec s h1 h2

/-- a larger request is never served from a smaller size class -/
theorem bs_index_monotone (s t : BitVec 32) (h1 : 1 ≤ s.toNat) (hst : s.toNat ≤ t.toNat) (h2 : t.toNat ≤ 2 ^ 31) :
    ∃ i j, Gen.bsIndex s = some i ∧ Gen.bsIndex t = some j ∧ i.toNat ≤ j.toNat := by
  obtain ⟨i, hi, ei⟩ := bs_index_eq s h1
  obtain ⟨j, hj, ej⟩ := bs_index_eq t (by omega)
  exact ⟨i, j, hi, hj, by rw [ei, ej]; exact bitLen_mono (by omega)⟩

/-- the size class wastes less than half: its capacity `2^i` is below twice the requested size -/
theorem bs_index_tight (s : BitVec 32) (h1 : 1 ≤ s.toNat) (h2 : s.toNat ≤ 2 ^ 31) :
    ∃ i, Gen.bsIndex s = some i ∧ s.toNat ≤ 2 ^ i.toNat ∧ 2 ^ i.toNat < 2 * s.toNat := by
  obtain ⟨i, hi, e⟩ := bs_index_eq s h1
  refine ⟨i, hi, ?_⟩
  rw [e]
  exact ⟨le_two_pow_bitLen_pred _, two_pow_bitLen_pred_lt (by omega)⟩

/-- packing (fd, loop index, row, column) and unpacking returns the same four values -/
theorem gfd_roundtrip (fd el row col : BitVec 64) (seq : BitVec 32)
    (hel : el.toNat < 256) (hrow : row.toNat < 256) (hcol : col.toNat < 65536) :
    (GFD.new fd el row col seq).fd = fd ∧ (GFD.new fd el row col seq).eventLoopIndex = el ∧
    (GFD.new fd el row col seq).row = row ∧ (GFD.new fd el row col seq).column = col ∧
    (GFD.new fd el row col seq).sequence = seq :=
  Proofs.Arith.gfd_roundtrip fd el row col seq hel hrow hcol

/-- `UpdateIndexes` changes only row and column -/
theorem gfd_update (fd el row col row' col' : BitVec 64) (seq : BitVec 32)
    (hel : el.toNat < 256) (hrow : row'.toNat < 256) (hcol : col'.toNat < 65536) :
    let g := (GFD.new fd el row col seq).updateIndexes row' col'
    g.fd = fd ∧ g.eventLoopIndex = el ∧ g.row = row' ∧ g.column = col' ∧ g.sequence = seq :=
  Proofs.Arith.gfd_update fd el row col row' col' seq hel hrow hcol

-- non-vacuity
example : Gen.CeilToPowerOfTwo 1000#64 = some 1024#64 := by decide
example : Gen.FloorToPowerOfTwo (BitVec.ofNat 64 (2 ^ 40 + 5)) = some (BitVec.ofNat 64 (2 ^ 40)) := by decide
example : Gen.ClosestPowerOfTwo 6#64 = some 8#64 := by decide
example : Gen.bsIndex 4097#32 = some 13#32 := by decide
example : Gen.bsIndex 4096#32 = some 12#32 := by decide
example : Gen.CeilToPowerOfTwo 1024#64 = some 1024#64 := by decide
example : (2 : Int) < (1000#64).toInt ∧ (1000#64).toInt ≤ 2 ^ 62 := by decide

end Gnet.Props.C20
