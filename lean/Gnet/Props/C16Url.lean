/-
  C16, parsing half: for every string, parsing a listen address either fails with an error or
  returns one of the seven supported schemes together with the endpoint exactly as written, and
  it never panics.

  `Gnet.Url.parseProtoAddr` (Gnet/Model/Url.lean) is an executable, TOTAL model of gnet's
  `parseProtoAddr`: `strings.ReplaceAll(addr, "%", "%25")`, Go 1.23 `net/url.Parse`,
  `path.Join` and the `switch u.Scheme` of gnet.go (`Gnet.Options.dispatch`).  It is tied to the
  real function by the recorded-data comparison of `gnetmodel arith` (`parse` lines): the model
  of url.Parse / path.Join is run on the address alone and every field it computes is compared
  with what the real url.Parse / path.Join returned.  A Go string is a byte string; a byte `b`
  is the character with code point `b`.  Totality of the Lean function is the "never panics"
  half for the model; for the real function it is the tie (no panic in any recorded run).

  The address grammar of the exactness theorems (all predicates `Bool`-valued, defined in
  Gnet/Model/Url.lean):
    nameChar      [a-z0-9.-]          hexColonChar  [0-9a-f:]
    zoneChar      [a-z0-9-]           segChar       [a-z0-9._-]
    isNameHost h      h non-empty over nameChar                               form (a)
    isV6Host h        h = "[" x "]",  x non-empty over hexColonChar            form (b)
    isV6ZoneHost h    h = "[" x "%" z "]",  x non-empty over hexColonChar,
                      z non-empty over zoneChar                                form (c)
    isIpHost h        one of the three
    isPort p          1 to 5 decimal digits
    isLowerWord s     non-empty, lower-case letters only
    isSchemeWord s    a lower-case letter, then lower-case letters and digits
    isCleanPath p     segments over segChar, none empty, "." or "..", separated by single
                      slashes, with or without a leading slash, no trailing slash
    isPathText p      non-empty over segChar and '/'

  Only property theorems and non-vacuity examples live here; the proofs are in
  Gnet/Proofs/Url*.lean.  Statements are never weakened to make a proof pass.
-/
import Gnet.Model.Url
import Gnet.Proofs.Url
namespace Gnet.Props.C16Url
open Gnet Gnet.Options Gnet.Url
open Gnet.Proofs.Url (eval_addr of_chars)

/-! ### tcp*/udp*: the endpoint is returned exactly as written -/

/-- For each of the six IP schemes, every host of form (a), (b) or (c) and every port of 1 to 5
    digits: the result is the scheme and `host:port` exactly as written.  In form (c) the raw '%'
    is escaped to "%25" by `parseProtoAddr` and unescaped again by url.Parse's zone handling. -/
theorem parse_ip_exact (scheme host port : String) (hs : scheme ∈ ipSchemes)
    (hh : isIpHost host.toList = true) (hp : isPort port.toList = true) :
    parseProtoAddr (scheme ++ "://" ++ host ++ ":" ++ port) = .ok scheme (host ++ ":" ++ port) :=
  Proofs.Url.parse_ip_exact scheme host port hs hh hp

example : parseProtoAddr "udp6://[fe80::4dc7:4bb%lo0]:9991" = .ok "udp6" "[fe80::4dc7:4bb%lo0]:9991" := by
  simpa using
    parse_ip_exact "udp6" "[fe80::4dc7:4bb%lo0]" "9991" (by simp [ipSchemes]) of_chars of_chars
example : parseProtoAddr "tcp4://192.168.0.1:65535" = .ok "tcp4" "192.168.0.1:65535" := by
  simpa using parse_ip_exact "tcp4" "192.168.0.1" "65535" (by simp [ipSchemes]) of_chars of_chars
example : parseProtoAddr "tcp://[::1]:80" = .ok "tcp" "[::1]:80" := by
  simpa using parse_ip_exact "tcp" "[::1]" "80" (by simp [ipSchemes]) of_chars of_chars
-- the same by evaluating the model
example : parseProtoAddr "udp6://[fe80::4dc7:4bb%lo0]:9991" = .ok "udp6" "[fe80::4dc7:4bb%lo0]:9991" :=
  eval_addr
example : parseProtoAddr "tcp://my-host.example.org:8080" = .ok "tcp" "my-host.example.org:8080" :=
  eval_addr

/-- the host predicates accept exactly the written forms (b) and (c) -/
theorem v6_forms (a z : String)
    (ha : a.toList ≠ [] ∧ a.toList.all hexColonChar = true)
    (hz : z.toList ≠ [] ∧ z.toList.all zoneChar = true) :
    isIpHost ("[" ++ a ++ "]").toList = true ∧ isIpHost ("[" ++ a ++ "%" ++ z ++ "]").toList = true := by
  rw [Proofs.Url.v6_text, Proofs.Url.v6zone_text]
  simp only [isIpHost, Bool.or_eq_true]
  exact ⟨Or.inl (Or.inr (Proofs.Url.isV6Host_intro ha.1 ha.2)),
    Or.inr (Proofs.Url.isV6ZoneHost_intro ha.1 ha.2 hz.1 hz.2)⟩

example : isIpHost "localhost".toList = true ∧ isIpHost "[fe80::1%eth0]".toList = true ∧
    isIpHost "[fe80::1%]".toList = false ∧ isIpHost "[fe80::1%Eth0]".toList = false ∧
    isIpHost "a b".toList = false ∧ isIpHost "[]".toList = false :=
  ⟨of_chars, of_chars, of_chars, of_chars, of_chars, of_chars⟩

/-! ### unix: the endpoint is the cleaned path -/

/-- A cleaned path, relative or absolute, comes back exactly as written.  With a leading slash
    url.Parse gives an empty host and the path; without, the first segment is the host and
    `path.Join(host, path)` puts the text together again. -/
theorem parse_unix_exact (p : String) (hp : isCleanPath p.toList = true) :
    parseProtoAddr ("unix://" ++ p) = .ok "unix" p :=
  Proofs.Url.parse_unix_exact p hp

example : parseProtoAddr "unix:///var/run/gnet_1.sock" = .ok "unix" "/var/run/gnet_1.sock" := by
  simpa using parse_unix_exact "/var/run/gnet_1.sock" of_chars
example : parseProtoAddr "unix://gnet.sock" = .ok "unix" "gnet.sock" := by
  simpa using parse_unix_exact "gnet.sock" of_chars
example : parseProtoAddr "unix://run/gnet/a.sock" = .ok "unix" "run/gnet/a.sock" := eval_addr

/-- General form: any non-empty text over `[a-z0-9._-]` and '/' (with ".", "..", doubled or
    trailing slashes): the endpoint is `path.Clean` of the text. -/
theorem parse_unix_clean (p : String) (hp : isPathText p.toList = true) :
    parseProtoAddr ("unix://" ++ p) = .ok "unix" (String.ofList (pathClean p.toList)) :=
  Proofs.Url.parse_unix_clean p hp

example : parseProtoAddr "unix://a/./b//../c.sock/" = .ok "unix" "a/c.sock" := eval_addr
example : parseProtoAddr "unix://../x" = .ok "unix" "../x" := eval_addr
example : pathClean "/../a/../..".toList = "/".toList := of_chars

/-! ### classification of every input -/

/-- For EVERY string: a success names one of the seven schemes and a non-empty endpoint. -/
theorem parse_total (s : String) :
    match parseProtoAddr s with
    | .ok sch ep => (sch ∈ ipSchemes ∨ sch = "unix") ∧ ep ≠ ""
    | _ => True := by
  split
  · exact Proofs.Url.parse_total_ok s ‹_›
  · trivial

example : parseProtoAddr "tcp://:80" = .ok "tcp" ":80" := eval_addr
example : parseProtoAddr "tcp://" = .invalidAddress := eval_addr
example : parseProtoAddr "unix://" = .invalidAddress := eval_addr
example : parseProtoAddr "tcp://host:80/x" = .invalidAddress := eval_addr
example : parseProtoAddr "//host:80" = .invalidAddress := eval_addr
example : parseProtoAddr "tcp://ho st:80" = .urlError := eval_addr

/-- A scheme gnet does not know (non-empty, lower-case letters, not one of the seven). -/
theorem parse_unknown_scheme (scheme host port : String)
    (hw : isLowerWord scheme.toList = true) (hn : scheme ∉ ipSchemes) (hu : scheme ≠ "unix")
    (hh : isIpHost host.toList = true) (hp : isPort port.toList = true) :
    parseProtoAddr (scheme ++ "://" ++ host ++ ":" ++ port) = .unsupportedProtocol :=
  Proofs.Url.parse_unknown_scheme scheme host port hw hn hu hh hp

example : parseProtoAddr "http://[fe80::1%eth0]:80" = .unsupportedProtocol := by
  simpa using
    parse_unknown_scheme "http" "[fe80::1%eth0]" "80" of_chars (by simp [ipSchemes]) (by simp) of_chars
      of_chars
example : parseProtoAddr "sctp://10.0.0.1:5000" = .unsupportedProtocol := eval_addr

/-- No scheme, bracketed IPv6 host: the text starts with '[', so there is no scheme, and the
    first path segment contains ':' - url.Parse fails ("first path segment in URL cannot contain
    colon"); gnet passes that error on. -/
theorem parse_no_scheme (host port : String)
    (hh : isV6Host host.toList = true ∨ isV6ZoneHost host.toList = true)
    (hp : isPort port.toList = true) :
    parseProtoAddr (host ++ ":" ++ port) = .urlError :=
  Proofs.Url.parse_no_scheme host port hh hp

example : parseProtoAddr "[fe80::1%eth0]:80" = .urlError := by
  simpa using parse_no_scheme "[fe80::1%eth0]" "80" (Or.inr of_chars) of_chars
example : parseProtoAddr "[::1]:80" = .urlError := eval_addr

/-- No scheme, a name: "localhost:80" is read as scheme "localhost" with opaque text "80", so the
    answer is unsupported-protocol - or invalid-address when the name happens to be one of the
    seven schemes ("tcp:80", "unix:80": scheme known, host and path empty). -/
theorem parse_no_scheme_name (host port : String) (hh : isSchemeWord host.toList = true)
    (hp : isPort port.toList = true) :
    parseProtoAddr (host ++ ":" ++ port) =
      if host ∈ ipSchemes ∨ host = "unix" then .invalidAddress else .unsupportedProtocol :=
  Proofs.Url.parse_no_scheme_name host port hh hp

example : parseProtoAddr "localhost:80" = .unsupportedProtocol := eval_addr
example : parseProtoAddr "tcp:80" = .invalidAddress := eval_addr
example : parseProtoAddr "127.0.0.1:80" = .urlError := eval_addr

end Gnet.Props.C16Url
