/-
  C13: the lock-free task queue is a linearizable FIFO queue.
  The model (Gnet/Model/Msq.lean) has one transition per atomic operation and carries ghost
  state: the abstract atomic queue `absQ`, updated at exactly one point inside every
  operation (the linearisation point: the successful CAS on `tail.next` for Enqueue, the
  successful CAS on `head` for Dequeue), the logs of those points, and for a pending Dequeue
  whether the abstract queue was empty when it read `head.next`.
  All statements are for every reachable state: any number of threads, any programs, any
  interleaving of single atomic operations.
  Only property theorems and non-vacuity examples live here; helper lemmas and the
  invariant are in Gnet/Proofs/Msq*.lean. Statements are never weakened to make a proof pass.
-/
import Gnet.Model.Msq
import Gnet.Proofs.MsqStep
namespace Gnet.Props.C13
open Gnet.Msq

/-- FIFO bookkeeping of the linearisation points: what has been enqueued is what has been
    dequeued followed by what is still queued - every dequeued task was enqueued, none twice,
    in enqueue order; once the queue is drained (`absQ = []`) each exactly once. -/
theorem msq_fifo (s : State) (h : Reachable s) : s.enqLog = s.deqLog ++ s.absQ :=
  let ⟨_, _, _, I⟩ := Proofs.Msq.inv_reachable h; I.fifo

/-- tasks are dequeued in the order their enqueues took effect (in particular the tasks one goroutine enqueues,
    whose enqueues take effect in program order, are dequeued in that order): the dequeue log is a prefix of
    the enqueue log -/
theorem msq_dequeue_order (s : State) (h : Reachable s) : s.deqLog <+: s.enqLog :=
  ⟨s.absQ, (msq_fifo s h).symm⟩

/-- at most once, and only what was enqueued: with distinct tasks no task is dequeued twice, and every
    dequeued task was enqueued -/
theorem msq_at_most_once (s : State) (h : Reachable s) (hd : s.enqLog.Nodup) :
    s.deqLog.Nodup ∧ ∀ v ∈ s.deqLog, v ∈ s.enqLog := by
  have hp := msq_dequeue_order s h
  exact ⟨hp.sublist.nodup hd, fun v hv => hp.subset hv⟩

/-- exactly once when drained: with an empty queue everything enqueued has been dequeued, in order -/
theorem msq_drained_exactly_once (s : State) (h : Reachable s) (he : s.absQ = []) : s.deqLog = s.enqLog := by
  have := msq_fifo s h
  simp [he] at this
  exact this.symm

/-- the abstract queue is the concrete linked structure behind the head node -/
theorem msq_abs_is_chain (s : State) (h : Reachable s) :
    s.absQ = ((chain s).drop (posOf s s.head + 1)).map (valueOf s) := by
  obtain ⟨c, hh, t, I⟩ := Proofs.Msq.inv_reachable h
  rw [I.linked.posOf I.hd, I.linked.chain_eq]; exact I.abs

/-- a Dequeue returns exactly the value the atomic queue handed out at its linearisation point -/
theorem msq_deq_value (s : State) (h : Reachable s) (tid : Nat) (t : Thread)
    (ht : s.threads[tid]? = some t) (hpc : t.pc = .dSub) :
    t.ghostRet = some t.task ∧ (step s tid).2 = some (.deqSome t.task) := by
  obtain ⟨c, hh, tt, I⟩ := Proofs.Msq.inv_reachable h
  have hT := I.snap tid t ht
  simp only [Proofs.Msq.Snap, hpc] at hT
  exact ⟨hT, by simp only [step, ht, hpc]⟩

/-- a Dequeue reports 'empty' only if the queue was empty at an instant inside the call
    (when it read `head.next`) -/
theorem msq_empty_justified (s : State) (h : Reachable s) (tid : Nat) (t : Thread)
    (ht : s.threads[tid]? = some t) (hr : (step s tid).2 = some .deqNone) :
    t.ghostSawEmpty = true :=
  let ⟨hpc, hn⟩ := Proofs.Msq.step_deqNone ht hr
  ((Proofs.Msq.inv_reachable h).nil_next ht hpc hn).2

/-- the length counter lags behind the abstract queue by exactly the operations that have
    passed their linearisation point but not yet their counter update -/
theorem msq_length_lag (s : State) (h : Reachable s) :
    s.length = (s.absQ.length : Int)
      - (s.threads.countP (fun t => t.pc == .eCasTail || t.pc == .eAdd) : Nat)
      + (s.threads.countP (fun t => t.pc == .dSub) : Nat) :=
  let ⟨_, _, _, I⟩ := Proofs.Msq.inv_reachable h; I.len

/-- when no operation is in flight `Length` is the number of queued tasks (and `IsEmpty`,
    which tests `Length = 0`, agrees) -/
theorem msq_quiescent (s : State) (h : Reachable s) (hq : ∀ t ∈ s.threads, t.pc = .idle) :
    s.length = s.absQ.length :=
  Proofs.Msq.quiescent s h hq

/-- the dereference `next.value` in Dequeue never hits nil -/
theorem msq_no_nil_deref (s : State) (h : Reachable s) (tid : Nat) (t : Thread)
    (ht : s.threads[tid]? = some t) (hpc : t.pc = .dReloadHead) (hh : t.head = s.head)
    (hne : t.head ≠ t.tail) : t.next ≠ none :=
  -- `hh` is not needed: the snapshot `t.next` is non-nil whenever `t.head ≠ t.tail`
  fun hn => let _ := hh; hne ((Proofs.Msq.inv_reachable h).nil_next ht hpc hn).1

/-- the tail pointer lags behind the last linked node by at most one node, and the head never
    overtakes it -/
theorem msq_tail_lag (s : State) (h : Reachable s) :
    posOf s s.head ≤ posOf s s.tail ∧ posOf s s.tail < (chain s).length ∧
    (chain s).length ≤ posOf s s.tail + 2 := by
  obtain ⟨c, hh, t, I⟩ := Proofs.Msq.inv_reachable h
  rw [I.linked.posOf I.hd, I.linked.posOf I.tl, I.linked.chain_eq]
  exact ⟨I.ht, Proofs.lt_of_getElem? I.tl, I.lag⟩

-- non-vacuity: a reachable state with a linked but uncounted node and a lagging tail
example : let s := runEvs (init 2) [.start 0 (.enq 5), .step 0, .step 0, .step 0, .step 0]
    (s.absQ, s.length, posOf s s.tail, (chain s).length) = ([5], 0, 0, 2) := by decide
-- and a Dequeue by the other thread that helps the tail forward and takes the task
example : let s := runEvs (init 2) ([.start 0 (.enq 5), .step 0, .step 0, .step 0, .step 0, .start 1 .deq] ++
      List.replicate 11 (.step 1))
    (s.absQ, s.deqLog, s.length) = ([], [5], -1) := by decide

end Gnet.Props.C13
