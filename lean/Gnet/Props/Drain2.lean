/-
  FIXED STATEMENTS (do not edit): the drain-and-abort protocol with the two task queues of the poller
  (Model/Drain2.lean). Proved in Gnet/Proofs/Drain2.lean.
-/
import Gnet.Model.Drain2
import Gnet.Proofs.Drain2
namespace Gnet.Props.Drain2
open Gnet.Drain2

/-- every task ever enqueued is in exactly one place - carried out by the loop, aborted by somebody, or still in one
of the two queues - and there exactly once -/
theorem drain2_partition (s : State) (h : Reachable s) :
    (s.ran ++ s.aborted ++ s.qU ++ s.qN).Perm (List.range s.next) :=
  (Proofs.Drain2.inv_reachable h).perm

/-- no registration is stranded in either queue: once the loop has finished its drain and every producer its re-check,
both queues are empty - whatever the interleaving, however many producers, whichever queue each task went to -/
theorem nothing_stranded2 (s : State) (h : Reachable s) (hq : Quiescent s = true) : s.qU = [] ∧ s.qN = [] :=
  Proofs.Drain2.nothing_stranded s h hq

/-- ... so every task was carried out or aborted, exactly once -/
theorem quiescent_all_settled2 (s : State) (h : Reachable s) (hq : Quiescent s = true) :
    (s.ran ++ s.aborted).Perm (List.range s.next) := by
  have hp := drain2_partition s h
  rwa [(nothing_stranded2 s h hq).1, (nothing_stranded2 s h hq).2, List.append_nil, List.append_nil] at hp

/-- the loop aborts nothing while it is polling, and nobody aborts anything before `exited` is set -/
theorem no_abort_before_exit (s : State) (h : Reachable s) (he : s.exited = false) : s.aborted = [] :=
  Proofs.Drain2.no_abort_before_exit s h he

-- non-vacuity: tasks in both queues, the loop drains one, a late producer drains its own
example :
    let s := run (init 2) [.enqueue 0 true, .load 0, .enqueue 1 false, .loopRunU, .loopLeave, .loopSetExited,
                           .loopDrain, .loopDrain, .loopDrain, .load 1, .prodDrain 1, .prodDrain 1,
                           .enqueue 0 false, .load 0, .prodDrain 0, .prodDrain 0, .prodDrain 0]
    Quiescent s = true ∧ s.ran = [0] ∧ s.aborted = [1, 2] ∧ s.qU = [] ∧ s.qN = [] := by decide

end Gnet.Props.Drain2
