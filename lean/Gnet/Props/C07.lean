/-
  C07 on the reactor model, for every accepted round (every sequence of
  environment decisions the real loop can exhibit and the acceptor recognises).
-/
import Gnet.Spec.ReactorSpec
import Gnet.Props.C06
import Gnet.Proofs.ReactorLife
import Gnet.Props.Handover
import Gnet.Props.Drain
import Gnet.Props.Drain2
import Gnet.Proofs.DrainOrder
import Gnet.Gen.Facts
import Gnet.Spec.ReactorExample
import Gnet.Proofs.ReactorRuns
namespace Gnet.Props.C07
open Gnet.Reactor

/-- descriptor discipline: in every accepted round every system call made for a connection
    names a descriptor that the ledger still holds open; in particular none after the
    connection's close and no second close -/
theorem fd_discipline (s s' : RState) (toks : List Tok) (hn : NamesNodup s)
    (h : acceptRound s toks = .ok s') (hl : InvLife s) (hf : InvFd s) : InvFd s' :=
  Proofs.ReactorLife.fd_discipline s s' toks hn h hl hf

/-- the same for whole histories: after ANY number of accepted rounds from the initial state of any configuration -/
theorem fd_discipline_all_histories (cfg : Cfg) (rounds : List (List Tok)) (s' : RState)
    (h : Proofs.ReactorRuns.acceptRounds { cfg := cfg } rounds = .ok s') : InvFd s' :=
  (Proofs.ReactorRuns.runs_from_init cfg rounds s' h).2.2.2.1

/-! Non-vacuity of `fd_discipline`: the recorded history issues accept, epoll_ctl, write, read, epoll_ctl(DEL) and close on
c1, and ends with the descriptor closed. -/
example : (Example.after 3).bind Example.lifeView = some (["open", "traffic", "close"], false) := by decide +kernel

/-! ### Hand-over of accepted connections and shutdown (models: Model/Handover.lean, Model/Drain.lean)

Stated and proved in Props/Handover.lean and Props/Drain.lean; restated here because they are obligations of C07. Every
descriptor the acceptor or an enrolment creates is in exactly one place; a registration handed to an event loop is
either carried out by that loop or aborted (descriptor closed) - by the loop when it leaves Polling, or by whoever
handed it over if the loop had exited already - so when everything has stopped every descriptor has been closed.
(Until the fix a1bc45e+1 "registrations handed to an event loop that has exited are aborted" the code did neither: the
former theorems `leak_reachable_by_action` / `leak_reachable_by_stop` stated the leak, which the descriptor-count
oracle had found on the real engine.) -/

theorem handover_partition (s : Handover.State) (h : Handover.Reachable s) :
    (Handover.pending s ++ Handover.registered s ++ s.closed).Perm (Handover.created s) :=
  Props.Handover.handover_partition s h

theorem pending_only_on_running_loops (s : Handover.State) (h : Handover.Reachable s) (l : Nat) (x : Handover.Loop)
    (hx : s.loops[l]? = some x) (hr : x.running = false) : Handover.pendingOf x = [] ∧ x.conns = [] :=
  Props.Handover.pending_only_on_running_loops s h l x hx hr

theorem final_no_leak (s : Handover.State) (h : Handover.Reachable s) (hf : Handover.Final s = true) :
    Handover.unclosed s = [] ∧ s.closed.Perm (Handover.created s) :=
  Props.Handover.final_no_leak s h hf

/-- the interleaved protocol behind the atomic abort of the model above: no registration is stranded -/
theorem nothing_stranded (s : Drain.State) (h : Drain.Reachable s) (hq : Drain.Quiescent s = true) : s.queue = [] :=
  Props.Drain.nothing_stranded s h hq

theorem drain_partition (s : Drain.State) (h : Drain.Reachable s) :
    (s.ran ++ s.aborted ++ s.queue).Perm (List.range s.next) :=
  Props.Drain.drain_partition s h

/-- the same with the two task queues the poller really has (urgent and normal; `Poller.Drain` empties one after the
other, a producer's task may be in either): nothing is stranded in either queue -/
theorem nothing_stranded2 : type_of% @Gnet.Props.Drain2.nothing_stranded2 := @Gnet.Props.Drain2.nothing_stranded2

theorem drain2_partition : type_of% @Gnet.Props.Drain2.drain2_partition := @Gnet.Props.Drain2.drain2_partition

theorem quiescent_all_settled2 : type_of% @Gnet.Props.Drain2.quiescent_all_settled2 := @Gnet.Props.Drain2.quiescent_all_settled2

theorem no_abort_before_exit : type_of% @Gnet.Props.Drain2.no_abort_before_exit := @Gnet.Props.Drain2.no_abort_before_exit

/-! ### The order of the calls in the source is the order of the protocol (tie: regenerated table `Facts.protocolSites`)

`nothing_stranded` is a theorem about a protocol with a particular order of steps. `DrainOrder.step` is the same protocol
with that order as a parameter; with the order of the code it IS Model/Drain.lean (`drain_order_embeds`), with either pair
swapped a registration is stranded (`stranded_if_load_before_hand`, `stranded_if_drain_before_store`). The order the
source has - which calls a function makes, one after the other - is extracted from the current tree on every run and has
to be the order of the model (`drain_protocol_followed`): a change that re-orders, drops or adds one of these calls breaks
this theorem. (Source order of calls, not a proof about Go control flow.) -/

theorem drain_order_embeds (n : Nat) (steps : List Drain.Step) :
    DrainOrder.run DrainOrder.asCoded (DrainOrder.init n) steps = DrainOrder.emb (Drain.run (Drain.init n) steps) ∧
    DrainOrder.Quiescent (DrainOrder.emb (Drain.run (Drain.init n) steps)) =
      Drain.Quiescent (Drain.run (Drain.init n) steps) :=
  Proofs.DrainOrder.embeds n steps

/-- ... so with the order of the code nothing is stranded in the parametrised protocol either -/
theorem coded_order_nothing_stranded (n : Nat) (steps : List Drain.Step)
    (hq : DrainOrder.Quiescent (DrainOrder.run DrainOrder.asCoded (DrainOrder.init n) steps) = true) :
    (DrainOrder.run DrainOrder.asCoded (DrainOrder.init n) steps).queue = [] := by
  have h := drain_order_embeds n steps
  rw [h.1] at hq ⊢
  rw [h.2] at hq
  exact Props.Drain.nothing_stranded _ ⟨n, steps, rfl⟩ hq

/-- a producer that looks at `exited` before it hands its registration over strands it -/
theorem stranded_if_load_before_hand :
    let s := DrainOrder.run { storeFirst := true, handFirst := false } (DrainOrder.init 1)
      [.load 0, .loopLeave, .loopSetExited, .loopDrain, .enqueue 0]
    DrainOrder.Quiescent s = true ∧ s.queue = [0] ∧ s.ran = [] ∧ s.aborted = [] := by decide

/-- a loop that drains before it publishes `exited` strands what arrives between its last Dequeue and the store -/
theorem stranded_if_drain_before_store :
    let s := DrainOrder.run { storeFirst := false, handFirst := true } (DrainOrder.init 1)
      [.loopLeave, .loopSetExited, .loopDrain, .enqueue 0, .load 0, .loopSetExited]
    DrainOrder.Quiescent s = true ∧ s.exited = true ∧ s.queue = [0] ∧ s.ran = [] ∧ s.aborted = [] := by decide

theorem drain_protocol_followed : DrainOrder.followed Facts.protocolSites = true := by decide +kernel

-- the predicate is not trivially true: the table with the two calls of abortPending swapped is rejected
example : DrainOrder.followed
    (Facts.protocolSites.map (fun e => if e.2.1 == "*eventloop.abortPending" then (e.1, e.2.1, ["drain", "store"]) else e))
    = false := by decide +kernel

/-- the order of the statements of `engine.stop` / `Client.Stop` in the current source is the order of the stopper of the
model: pollers and listeners are closed only after every loop has exited, the flag is set last (Props/C06.lean) -/
theorem stop_order_followed : type_of% @Gnet.Props.C06.stop_order_followed := @Gnet.Props.C06.stop_order_followed

end Gnet.Props.C07

