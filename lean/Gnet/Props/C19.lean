/-
  C19 (control API state machine)
  on the engine model (Gnet/Model/Engine.lean). Small-step statements hold in every reachable
  state: any number of loops, ticker on or off, any interleaving of accepts, traffic, peer
  closes, shutdown requests from any source (also several racing), and the steps of the
  `stop` goroutine, the loops and the ticker.
-/
import Gnet.Model.Engine
import Gnet.Props.C06
import Gnet.Proofs.Engine
import Gnet.Props.Handover
namespace Gnet.Props.C19
open Gnet.Engine

/-- a handle that was never started: the empty-engine error everywhere, -1 from CountConnections -/
theorem api_never (c : Call) : api .never c = (if c = .count then .minusOne else .empty) :=
  Proofs.Engine.api_never c

/-- a running engine accepts the calls (argument errors aside) -/
theorem api_running : api .running .validate = .nil ∧ api .running .count = .number ∧ api .running .dup = .nil ∧
    api .running .registerNoTarget = .invalidAddr ∧ api .running .dupListenerUnknown = .invalidAddr := by decide

/-- after shutdown has completed: the in-shutdown error everywhere, -1 from CountConnections; in
    particular stopping twice is harmless -/
theorem api_down (c : Call) : api .down c = (if c = .count then .minusOne else .inShutdown) :=
  Proofs.Engine.api_of_invalid (ph := .down) nofun c

/-- inside OnBoot no event loop is registered yet: Register reports the empty-engine error -/
theorem api_booting_register : api .booting .registerNoTarget = .empty := by decide

/-- a shutdown request is never undone (Stop returning the context's error does not cancel it) -/
theorem request_is_final (s : State) (a : Step) (hc : s.ctxCancelled = true) : (step s a).ctxCancelled = true :=
  Proofs.Engine.request_is_final s a hc

/-- the flag that makes `Stop` return nil is set only by the last statement of engine.stop -/
theorem flag_only_at_end (s : State) (a : Step) (h0 : s.inShutdown = false) (h1 : (step s a).inShutdown = true) :
    a = .stopper ∧ s.stopPc = .setFlag :=
  Proofs.Engine.flag_only_at_end s a h0 h1

/-- an engine with several listeners (`Rotate`): only `Dup` changes - it cannot choose a listener while the engine
    runs - every other call, and `Dup` in every other phase, answers as for one listener -/
theorem api_multi : apiMulti .running .dup = .unsupported ∧ apiMulti .booting .dup = .unsupported ∧
    apiMulti .never .dup = .empty ∧ apiMulti .down .dup = .inShutdown ∧
    (∀ ph c, c ≠ .dup → apiMulti ph c = api ph c) ∧ apiMulti .running .dupListenerKnown = .nil := by
  refine ⟨by decide, by decide, by decide, by decide, ?_, by decide⟩
  intro ph c hc
  simp [apiMulti, hc]

/-! ### Register / Enroll deliver exactly one result (hand-over model, Model/Handover.lean)

Proved in Props/Handover.lean for every reachable state: an accepted call gets at most one result; it is without one
exactly while its registration waits in a queue; when everything has stopped every accepted call has been answered -
with a connection whose OnOpen has run, or with an error (its descriptor closed, OnOpen never run); once the
in-shutdown flag is set no call is accepted. (Until the fix "registrations handed to an event loop that has exited are
aborted" a call accepted during shutdown was never answered: former theorem `register_unanswered_reachable`.) -/
theorem results_at_most_once (s : Handover.State) (h : Handover.Reachable s) :
    s.results.Nodup ∧ (∀ fd ∈ s.results, fd ∈ s.enrolled) ∧ s.enrolled.Nodup :=
  Props.Handover.results_at_most_once s h

theorem unanswered_are_pending (s : Handover.State) (h : Handover.Reachable s) :
    ∀ fd, fd ∈ Handover.unanswered s ↔ (fd ∈ s.enrolled ∧ fd ∈ Handover.pending s) :=
  Props.Handover.unanswered_are_pending s h

theorem final_all_answered (s : Handover.State) (h : Handover.Reachable s) (hf : Handover.Final s = true) :
    Handover.unanswered s = [] :=
  Props.Handover.final_all_answered s h hf

theorem failed_results (s : Handover.State) (h : Handover.Reachable s) :
    (∀ fd ∈ s.failed, fd ∈ s.results ∧ fd ∈ s.closed ∧ fd ∉ s.opened.map Prod.fst) ∧
    (∀ fd ∈ s.results, fd ∉ s.failed → fd ∈ s.opened.map Prod.fst) :=
  Props.Handover.failed_results s h

theorem no_enrolment_after_flag (s : Handover.State) (hs : s.inShutdown = true) (l : Nat) :
    Handover.step s (.enroll l) = s :=
  Props.Handover.no_enrolment_after_flag s hs l

/-! Non-vacuity: a complete life of the small-step system - a connection is served, Stop is requested, the loop runs
its sentinel, closes the connection and exits, the stopper sets the flag - reaches the state the theorems speak of;
and the table has the entries the property names. -/
example : let s := run (init 1 false) [.accept 0, .traffic 0 0, .requestStop, .stopper, .stopper, .stopper, .runSentinel 0,
      .closeOne 0, .loopExit 0, .stopper, .stopper, .stopper]
    s.inShutdown = true ∧ s.trace = [.open 0, .traffic 0, .shutdown, .close 0] := by decide +kernel

example : api .never .stop = .empty ∧ api .running .validate = .nil ∧ api .down .dup = .inShutdown ∧ api .down .count = .minusOne := by
  decide

/-- the order of the statements of `engine.stop` / `Client.Stop` in the current source is the order of the stopper of the
model: pollers and listeners are closed only after every loop has exited, the flag is set last (Props/C06.lean) -/
theorem stop_order_followed : type_of% @Gnet.Props.C06.stop_order_followed := @Gnet.Props.C06.stop_order_followed

end Gnet.Props.C19
