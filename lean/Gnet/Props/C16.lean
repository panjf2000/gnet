/-
  C16: address parsing and option normalisation are total and exact.
  `Gnet.Gen.norm*` and `Gnet.Gen.determineEventLoops` are REGENERATED from gnet.go /
  client_unix.go on every run; `none` = panic.
  Only property theorems and non-vacuity examples live here; helper lemmas are in
  Gnet/Proofs/Options.lean. Statements are never weakened to make a proof pass.
-/
import Gnet.Model.Options
import Gnet.Proofs.Arith
import Gnet.Proofs.Options
import Gnet.Props.C16Url
namespace Gnet.Props.C16
open Gnet Gnet.Options

/-- Read/write buffer capacity (server): 64 KiB for requests ≤ 0, 1 KiB for 1..1024, otherwise the
    smallest power of two not smaller than the request; a panic only when no such int exists. -/
theorem norm_read_cap_server (x : BitVec 64) :
    (x.toInt ≤ 0 → Gen.normReadCapServer x 65536#64 = some 65536#64) ∧
    (0 < x.toInt → x.toInt ≤ 1024 → Gen.normReadCapServer x 65536#64 = some 1024#64) ∧
    (1024 < x.toInt → x.toInt ≤ 2 ^ 62 → ∃ r, Gen.normReadCapServer x 65536#64 = some r ∧
        Proofs.Arith.IsPow2 r.toInt ∧ x.toInt ≤ r.toInt ∧ 1024 ≤ r.toInt ∧
        ∀ p : Int, Proofs.Arith.IsPow2 p → x.toInt ≤ p → r.toInt ≤ p) ∧
    (2 ^ 62 < x.toInt → Gen.normReadCapServer x 65536#64 = none) :=
  Proofs.Options.norm_read_cap_server x

/-- normalising a buffer capacity is idempotent: whatever `normReadCapServer` returns (for any request
    on which it does not panic) is returned unchanged when given back as the request - options already
    normalised by a first engine survive being passed to a second one -/
theorem norm_cap_idempotent (x r : BitVec 64) (h : Gen.normReadCapServer x 65536#64 = some r) :
    Gen.normReadCapServer r 65536#64 = some r := by
  rw [Proofs.Options.norm_eq] at h ⊢
  split at h
  · cases h; rfl
  split at h
  · cases h; rfl
  -- `r` is what `CeilToPowerOfTwo x` returned: above 1024, and a fixed point of the rounding
  have hx : x.toInt ≤ 2 ^ 62 := Decidable.byContradiction fun c => by
    rw [(Proofs.Arith.ceil_panics x).2 (by omega)] at h; cases h
  obtain ⟨q, hq, hqq⟩ := Proofs.Arith.ceil_idempotent x hx
  obtain ⟨_, hr, _, hle, _⟩ := Proofs.Arith.ceil_spec x hx
  rw [h] at hq hr; cases hq; cases hr
  rw [if_neg (by omega), if_neg (by omega), hqq]

/-- the other three switches are the same function -/
theorem norm_caps_agree (x mx : BitVec 64) :
    Gen.normWriteCapServer x mx = Gen.normReadCapServer x mx ∧
    Gen.normReadCapClient x mx = Gen.normReadCapServer x mx ∧
    Gen.normWriteCapClient x mx = Gen.normReadCapServer x mx :=
  Proofs.Options.norm_caps_agree x mx

/-- edge-triggered chunk: a positive request is rounded up to a power of two and switches
    edge-triggered mode on; otherwise 1 MiB when edge-triggered mode is on -/
theorem chunk_spec (chunk : BitVec 64) (et : Bool) :
    (0 < chunk.toInt → chunk.toInt ≤ 2 ^ 62 → ∃ r, chunkNorm chunk et = some (r, true) ∧
        Gen.CeilToPowerOfTwo chunk = some r) ∧
    (chunk.toInt ≤ 0 → et = true → chunkNorm chunk et = some (1048576#64, true)) ∧
    (chunk.toInt ≤ 0 → et = false → chunkNorm chunk et = some (chunk, false)) :=
  Proofs.Options.chunk_spec chunk et

/-- number of event loops: clamped to 1..256 according to Multicore / NumEventLoop -/
theorem evloops_spec (mc : Bool) (nel ncpu : BitVec 64) (hcpu : 1 ≤ ncpu.toInt) :
    ∃ r, Gen.determineEventLoops mc nel ncpu = some r ∧ 1 ≤ r.toInt ∧ r.toInt ≤ 256 ∧
      (0 < nel.toInt → r.toInt = min nel.toInt 256) ∧
      (nel.toInt ≤ 0 → mc = true → r.toInt = min ncpu.toInt 256) ∧
      (nel.toInt ≤ 0 → mc = false → r.toInt = 1) :=
  Proofs.Options.evloops_spec mc nel ncpu hcpu

/-- gnet's dispatch on the parsed URL is total: an error, or one of the seven schemes with a
    non-empty endpoint -/
theorem dispatch_total (u : UrlParts) :
    dispatch u = .urlError ∨ dispatch u = .invalidAddress ∨ dispatch u = .unsupportedProtocol ∨
    ∃ s e, dispatch u = .ok s e ∧ (s ∈ ipSchemes ∨ s = "unix") ∧ e ≠ "" :=
  Proofs.Options.dispatch_total u

/-- tcp*/udp*: the endpoint is returned exactly as `url.Parse` delivered the host -/
theorem dispatch_ip (u : UrlParts) (he : u.err = false) (hs : u.scheme ∈ ipSchemes)
    (hh : u.host ≠ "") (hp : u.path = "") : dispatch u = .ok u.scheme u.host :=
  Proofs.Options.dispatch_ip u he hs hh hp

theorem dispatch_unix (u : UrlParts) (he : u.err = false) (hs : u.scheme = "unix") (hj : u.joined ≠ "") :
    dispatch u = .ok "unix" u.joined :=
  Proofs.Options.dispatch_unix u he hs hj

/-- the documented errors -/
theorem dispatch_errors (u : UrlParts) (he : u.err = false) :
    (u.scheme = "" → dispatch u = .invalidAddress) ∧
    (u.scheme ∈ ipSchemes → (u.host = "" ∨ u.path ≠ "") → dispatch u = .invalidAddress) ∧
    (u.scheme = "unix" → u.joined = "" → dispatch u = .invalidAddress) ∧
    (u.scheme ≠ "" → u.scheme ∉ ipSchemes → u.scheme ≠ "unix" → dispatch u = .unsupportedProtocol) :=
  Proofs.Options.dispatch_errors u he

-- non-vacuity
example : Gen.normReadCapServer 5000#64 65536#64 = some 8192#64 := by decide
example : Gen.determineEventLoops true 0#64 16#64 = some 16#64 := by decide
example : dispatch ⟨false, "tcp6", "[fe80::1%eth0]:80", "", "[fe80::1%eth0]:80"⟩ = .ok "tcp6" "[fe80::1%eth0]:80" := by rfl

/-! ### Address parsing, whole function (model of `net/url.Parse` + `path.Join` + the dispatch: Model/Url.lean)

Stated with their full hypotheses and examples in Props/C16Url.lean; restated here because they are obligations
of C16. The model of url.Parse is tied to Go's by the correspondence run (every generated and fuzzed address:
error-or-not, scheme, host, path, joined path and the final result must agree). -/

theorem parse_ip_exact : type_of% @Gnet.Props.C16Url.parse_ip_exact := @Gnet.Props.C16Url.parse_ip_exact

theorem v6_forms : type_of% @Gnet.Props.C16Url.v6_forms := @Gnet.Props.C16Url.v6_forms

theorem parse_unix_exact : type_of% @Gnet.Props.C16Url.parse_unix_exact := @Gnet.Props.C16Url.parse_unix_exact

theorem parse_unix_clean : type_of% @Gnet.Props.C16Url.parse_unix_clean := @Gnet.Props.C16Url.parse_unix_clean

theorem parse_total : type_of% @Gnet.Props.C16Url.parse_total := @Gnet.Props.C16Url.parse_total

theorem parse_unknown_scheme : type_of% @Gnet.Props.C16Url.parse_unknown_scheme := @Gnet.Props.C16Url.parse_unknown_scheme

theorem parse_no_scheme : type_of% @Gnet.Props.C16Url.parse_no_scheme := @Gnet.Props.C16Url.parse_no_scheme

theorem parse_no_scheme_name : type_of% @Gnet.Props.C16Url.parse_no_scheme_name := @Gnet.Props.C16Url.parse_no_scheme_name

end Gnet.Props.C16
