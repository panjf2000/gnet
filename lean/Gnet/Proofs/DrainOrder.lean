/-
  Model/DrainOrder.lean with the order of the code is Model/Drain.lean: `emb` commutes with the steps. Every
  step is an update under a guard; `embLoop` and `embProd` are injective, so the guards of the two models
  agree.
-/
import Gnet.Model.DrainOrder
namespace Gnet.Proofs.DrainOrder
open Gnet.DrainOrder

theorem embLoop_inj {a b : Drain.LoopPc} (h : embLoop a = embLoop b) : a = b := by
  cases a <;> cases b <;> first | rfl | cases h

theorem embProd_inj {a b : Drain.ProdPc} (h : embProd a = embProd b) : a = b := by
  cases a <;> cases b <;> first | rfl | cases h

theorem loop_emb (s : Drain.State) (l : Drain.LoopPc) : (emb s).loop = embLoop l ↔ s.loop = l :=
  ⟨embLoop_inj, congrArg embLoop⟩

theorem prods_emb (s : Drain.State) (p : Nat) (pc : Drain.ProdPc) :
    (emb s).prods[p]? = some (embProd pc) ↔ s.prods[p]? = some pc := by
  rw [show (emb s).prods[p]? = s.prods[p]?.map embProd from List.getElem?_map .., Option.map_eq_some_iff]
  exact ⟨fun ⟨a, ha, e⟩ => embProd_inj e ▸ ha, fun h => ⟨pc, h, rfl⟩⟩

theorem emb_setProd (s : Drain.State) (p : Nat) (pc : Drain.ProdPc) :
    emb (Drain.setProd s p pc) = setProd (emb s) p (embProd pc) := by
  simp [emb, setProd, Drain.setProd]

theorem ite_emb {σ τ} {f : σ → τ} {c c' : Prop} [Decidable c] [Decidable c'] (hc : c ↔ c')
    {t e : τ} {t' e' : σ} (ht : t = f t') (he : e = f e') :
    (if c then t else e) = f (if c' then t' else e') := by
  rw [ht, he, apply_ite f, ite_cond_congr (propext hc)]

theorem embeds_step (s : Drain.State) (a : Drain.Step) : step asCoded (emb s) a = emb (Drain.step s a) := by
  cases a with
  | loopRun =>
    refine ite_emb (loop_emb s .polling) ?_ rfl
    obtain ⟨_, _, _ | _, _⟩ := s <;> rfl  -- queue empty or not
  | loopLeave => exact ite_emb (loop_emb s .polling) rfl rfl
  | loopSetExited =>
    refine ite_emb (loop_emb s .leaving) rfl (if_neg ?_)
    show embLoop s.loop ≠ .storing
    cases s.loop <;> nofun
  | loopDrain =>
    refine ite_emb (loop_emb s .draining) ?_ rfl
    obtain ⟨_, _, _ | _, _⟩ := s <;> rfl  -- queue empty or not
  | enqueue p =>
    -- `step asCoded` tests `handFirst` first, which evaluates; the ascription names the branch it takes
    refine (ite_emb (prods_emb s p .idle) ?_ rfl :
      (if (emb s).prods[p]? = some .idle then _ else emb s) = _)
    simp [emb, setProd, Drain.setProd, embProd]
  | load p =>
    refine (ite_emb (prods_emb s p .enqueued) ?_ rfl :
      (if (emb s).prods[p]? = some .enqueued then _ else emb s) = _)
    rw [emb_setProd, apply_ite embProd]; rfl
  | prodDrain p =>
    refine ite_emb (prods_emb s p .draining) ?_ rfl
    obtain ⟨_, _, _ | _, _⟩ := s  -- queue empty or not
    · exact (emb_setProd _ p .idle).symm
    · rfl

theorem embeds_run (s : Drain.State) (steps : List Drain.Step) :
    run asCoded (emb s) steps = emb (Drain.run s steps) := by
  induction steps generalizing s with
  | nil => rfl
  | cons a rest ih => simp only [run, Drain.run, embeds_step, ih]

theorem emb_init (n : Nat) : emb (Drain.init n) = init n := by
  simp [emb, Drain.init, init, embLoop, embProd]

theorem emb_quiescent (s : Drain.State) : Quiescent (emb s) = Drain.Quiescent s := by
  -- `x == y` on the pcs is `decide (x = y)`
  refine congr (congrArg and (decide_eq_decide.2 (loop_emb s .done))) ?_
  rw [show (emb s).prods = s.prods.map embProd from rfl, List.all_map]
  exact congrArg s.prods.all
    (funext fun x => decide_eq_decide.2 ⟨embProd_inj (b := .idle), congrArg embProd⟩)

theorem embeds (n : Nat) (steps : List Drain.Step) :
    run asCoded (init n) steps = emb (Drain.run (Drain.init n) steps) ∧
    Quiescent (emb (Drain.run (Drain.init n) steps)) = Drain.Quiescent (Drain.run (Drain.init n) steps) :=
  ⟨emb_init n ▸ embeds_run _ steps, emb_quiescent _⟩

end Gnet.Proofs.DrainOrder
