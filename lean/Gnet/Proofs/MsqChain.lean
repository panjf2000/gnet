/-
  The heap part of the Michael-Scott queue invariant (C13): the linked nodes form a duplicate-free
  list `c` that the model's fuel-bounded walk `chain` reproduces.
-/
import Gnet.Model.Msq
import Gnet.Proofs.ListFacts
namespace Gnet.Proofs.Msq
open Gnet.Msq

theorem default_next : (default : Node).next = none := rfl

theorem nextOf_congr {s s' : State} (h : s'.nodes = s.nodes) : nextOf s' = nextOf s := by
  unfold nextOf; rw [h]
theorem valueOf_congr {s s' : State} (h : s'.nodes = s.nodes) : valueOf s' = valueOf s := by
  unfold valueOf; rw [h]

theorem chainFrom_congr {s s' : State} (h : nextOf s' = nextOf s) :
    ∀ fuel n, chainFrom s' fuel n = chainFrom s fuel n
  | 0, _ => rfl
  | fuel + 1, n => by simp only [chainFrom, h, chainFrom_congr h fuel]

theorem chain_congr {s s' : State} (h : s'.nodes = s.nodes) : chain s' = chain s := by
  unfold chain; rw [h, chainFrom_congr (nextOf_congr h)]

/-- about the node list alone, so that a state with the same `nodes` has it by `I.linked` -/
structure Linked (ns : List Node) (c : List Nat) : Prop where
  c0 : c[0]? = some 0
  cnext : ∀ i x, c[i]? = some x → (ns.getD x default).next = c[i+1]?
  nodup : c.Nodup
  bound : ∀ x ∈ c, x < ns.length
  out : ∀ x, x ∉ c → (ns.getD x default).next = none

theorem chainFrom_eq {s : State} {c : List Nat}
    (cnext : ∀ i x, c[i]? = some x → nextOf s x = c[i+1]?) :
    ∀ fuel i x, c[i]? = some x → c.length - i ≤ fuel → chainFrom s fuel x = c.drop i
  | 0, i, x, hi, hf => by have := lt_of_getElem? hi; omega
  | fuel + 1, i, x, hi, hf => by
    obtain ⟨hlt, rfl⟩ := List.getElem?_eq_some_iff.1 hi
    rw [List.drop_eq_getElem_cons hlt, chainFrom, cnext i _ hi]
    cases hn : c[i+1]? with
    | none => simp [List.drop_eq_nil_iff.2 (List.getElem?_eq_none_iff.1 hn)]
    | some m => simp only; rw [chainFrom_eq cnext fuel (i+1) m hn (by omega)]

theorem Linked.chain_eq {s : State} {c : List Nat} (L : Linked s.nodes c) : chain s = c := by
  -- the fuel `nodes.length` suffices: `c` is duplicate-free with members below it (pigeonhole, via `range`)
  have := chainFrom_eq L.cnext s.nodes.length 0 0 L.c0
    (by simpa using L.nodup.length_le_of_subset (l₂ := List.range s.nodes.length)
          fun x hx => List.mem_range.2 (L.bound x hx))
  simpa [chain] using this

theorem Linked.posOf {s : State} {c : List Nat} (L : Linked s.nodes c) {i x : Nat} (hi : c[i]? = some x) :
    posOf s x = i := by
  obtain ⟨hlt, rfl⟩ := List.getElem?_eq_some_iff.1 hi
  unfold Gnet.Msq.posOf; rw [L.chain_eq]; exact L.nodup.idxOf_getElem i hlt

theorem Linked.link {ns : List Node} {c : List Nat} {p x n : Nat} (L : Linked ns c)
    (hp : c[p]? = some x) (hlast : c[p+1]? = none) (hn : n ∉ c) (hnl : n < ns.length) :
    Linked (ns.set x { ns.getD x default with next := some n }) (c ++ [n]) := by
  have hL1 := List.getElem?_eq_none_iff.1 hlast
  have hL2 := lt_of_getElem? hp
  have hx : x < ns.length := L.bound _ (List.mem_of_getElem? hp)
  have hN2 : ∀ y, y ≠ x → ((ns.set x { ns.getD x default with next := some n }).getD y default).next
      = (ns.getD y default).next := fun y hy => by rw [getD_set_ne hy]
  refine ⟨getElem?_append_of L.c0, ?_, ?_, ?_, ?_⟩
  · intro i y hi
    by_cases hil : i < c.length
    · rw [List.getElem?_append_left hil] at hi
      by_cases hy : y = x
      · subst hy
        obtain rfl : i = p := nodup_idx L.nodup hi hp
        simp [List.getD_eq_getElem?_getD, hx, show i + 1 = c.length by omega]
      · have : i ≠ p := fun e => hy (Option.some.inj ((e ▸ hi).symm.trans hp))
        rw [hN2 y hy, L.cnext i y hi, List.getElem?_append_left (by omega)]
    · have hi2 := lt_of_getElem? hi
      obtain rfl : i = c.length := by simp at hi2; omega
      obtain rfl : n = y := by simpa using hi
      rw [hN2 _ (fun e : n = x => hn (e ▸ List.mem_of_getElem? hp)), L.out _ hn]
      exact (List.getElem?_eq_none_iff.2 (by simp)).symm
  · exact List.nodup_append.2 ⟨L.nodup, by simp, by simpa using fun a ha (e : a = n) => hn (e ▸ ha)⟩
  · intro y hy
    rw [List.length_set]
    rcases List.mem_append.1 hy with hy | hy
    · exact L.bound y hy
    · rwa [List.mem_singleton.1 hy]
  · intro y hy
    have hy : y ∉ c := fun h => hy (List.mem_append_left _ h)
    rw [hN2 y (fun e : y = x => hy (e ▸ List.mem_of_getElem? hp))]
    exact L.out y hy

theorem getD_set_next_value (ns : List Node) (x n y : Nat) :
    ((ns.set x { ns.getD x default with next := some n }).getD y default).value =
      (ns.getD y default).value := by
  simp only [List.getD_eq_getElem?_getD, List.getElem?_set]
  by_cases hy : x = y
  · subst hy
    by_cases hx : x < ns.length <;> simp [hx]
  · simp [hy]

theorem Linked.alloc {ns : List Node} {c : List Nat} (L : Linked ns c) (v : Nat) :
    Linked (ns ++ [⟨v, none⟩]) c := by
  have hN : ∀ x, ((ns ++ [(⟨v, none⟩ : Node)]).getD x default).next = (ns.getD x default).next := by
    intro x
    simp only [List.getD_eq_getElem?_getD]
    rcases Nat.lt_trichotomy x ns.length with hx | rfl | hx
    · rw [List.getElem?_append_left hx]
    · simp [default_next]
    · rw [List.getElem?_eq_none_iff.2 (by simp; omega), List.getElem?_eq_none_iff.2 (by omega)]
  refine ⟨L.c0, fun i x => hN x ▸ L.cnext i x, L.nodup, fun x hx => ?_, fun x => hN x ▸ L.out x⟩
  have := L.bound x hx; simp; omega

end Gnet.Proofs.Msq
