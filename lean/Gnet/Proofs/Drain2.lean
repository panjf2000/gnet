/-
  The argument of Proofs/Drain.lean for two queues, the urgent one emptied first: an agent's position says
  how many queues it has left behind, and queue `i` is watched by the agents at most at `i`.
-/
import Gnet.Model.Drain2
import Gnet.Proofs.ListFacts
namespace Gnet.Proofs.Drain2
open Gnet.Drain2

def loopPos : LoopPc → Nat
  | .polling | .leaving | .drainU => 0
  | .drainN => 1
  | .done => 2

/-- `.enqueued` is at 0: the producer drains both queues unless it loads `false`, and then the loop is at 0
still -/
def prodPos : ProdPc → Nat
  | .enqueued | .drainU => 0
  | .drainN => 1
  | .idle => 2

def Watched (i : Nat) (s : State) : Prop := loopPos s.loop ≤ i ∨ ∃ x ∈ s.prods, prodPos x ≤ i

structure Early (loop : LoopPc) (aborted : List Nat) (prods : List ProdPc) : Prop where
  loop : loop = .polling ∨ loop = .leaving
  aborted : aborted = []
  prods : ∀ x ∈ prods, x = .idle ∨ x = .enqueued

structure Inv (s : State) : Prop where
  perm : (s.ran ++ s.aborted ++ s.qU ++ s.qN).Perm (List.range s.next)
  early : s.exited = true ∨ Early s.loop s.aborted s.prods
  watchU : s.qU = [] ∨ Watched 0 s
  watchN : s.qN = [] ∨ Watched 1 s

theorem inv_init (n : Nat) : Inv (init n) where
  perm := .refl _
  early := .inr ⟨.inl rfl, rfl, fun _ hx => .inl (List.eq_of_mem_replicate hx)⟩
  watchU := .inl rfl
  watchN := .inl rfl

theorem Inv.exited_of_loop {s : State} (h : Inv s) (hl : ¬ (s.loop = .polling ∨ s.loop = .leaving)) :
    s.exited = true :=
  h.early.resolve_right fun e => hl e.loop

theorem Inv.exited_of_prod {s : State} (h : Inv s) {p : Nat} {x : ProdPc} (hp : s.prods[p]? = some x)
    (hx : ¬ (x = .idle ∨ x = .enqueued)) : s.exited = true :=
  h.early.resolve_right fun e => hx (e.prods x (List.mem_of_getElem? hp))

theorem Inv.early_set {s : State} (h : Inv s) (p : Nat) {z : ProdPc} (hz : z = .idle ∨ z = .enqueued) :
    s.exited = true ∨ Early s.loop s.aborted (s.prods.set p z) :=
  h.early.imp_right fun e => { e with prods := forall_mem_set e.prods hz }

/-- `Drain.inv_take`; `ha`: the head goes to `ab'` only once `exited` is stored -/
theorem inv_takeU {s : State} {t : Nat} {q ran' ab' : List Nat} (h : Inv s) (hq : s.qU = t :: q)
    (hp : (ran' ++ ab').Perm (t :: (s.ran ++ s.aborted))) (ha : s.exited = true ∨ ab' = []) :
    Inv { s with qU := q, ran := ran', aborted := ab' } where
  perm := (((hp.append_right q).trans List.perm_middle.symm).append_right s.qN).trans (hq ▸ h.perm)
  early := ha.elim .inl fun ha => h.early.imp_right fun e => { e with aborted := ha }
  watchU := .inr (h.watchU.resolve_left (hq ▸ List.cons_ne_nil t q))
  watchN := h.watchN

theorem inv_takeN {s : State} {t : Nat} {q ran' ab' : List Nat} (h : Inv s) (hq : s.qN = t :: q)
    (hp : (ran' ++ ab').Perm (t :: (s.ran ++ s.aborted))) (ha : s.exited = true ∨ ab' = []) :
    Inv { s with qN := q, ran := ran', aborted := ab' } where
  perm := (((hp.append_right s.qU).append_right q).trans List.perm_middle.symm).trans (hq ▸ h.perm)
  early := ha.elim .inl fun ha => h.early.imp_right fun e => { e with aborted := ha }
  watchU := h.watchU
  watchN := .inr (h.watchN.resolve_left (hq ▸ List.cons_ne_nil t q))

-- an urgent task enters `Inv.perm` in the middle: the urgent queue stands before the other one
theorem perm_range_succ {x y : List Nat} {n : Nat} (h : (x ++ y).Perm (List.range n)) :
    (x ++ n :: y).Perm (List.range (n + 1)) :=
  List.range_succ ▸ (List.perm_middle.trans (h.cons n)).trans (List.perm_append_singleton n _).symm

theorem inv_step {s : State} (h : Inv s) (a : Step) : Inv (step s a) := by
  cases a with
  | loopRunU =>
    refine of_ite h fun hl => ?_
    split
    next t q hq => exact inv_takeU h hq perm_snoc_append (h.early.imp_right (·.aborted))
    next => exact h
  | loopRunN =>
    refine of_ite h fun hl => ?_
    split
    next t q hq => exact inv_takeN h hq perm_snoc_append (h.early.imp_right (·.aborted))
    next => exact h
  | loopLeave =>
    exact of_ite h fun hl => { h with
      early := h.early.imp_right fun e => { e with loop := .inr rfl }
      watchU := .inr (.inl (Nat.zero_le 0))
      watchN := .inr (.inl (Nat.zero_le 1)) }
  | loopSetExited =>
    exact of_ite h fun hl => { h with
      early := .inl rfl
      watchU := .inr (.inl (Nat.zero_le 0))
      watchN := .inr (.inl (Nat.zero_le 1)) }
  | loopDrain =>
    refine of_ite (of_ite h fun hl => ?drainN) fun hl => ?drainU
    case drainU =>
      have hex : s.exited = true := h.exited_of_loop (hl ▸ nofun)
      split
      next t q hq => exact inv_takeU h hq perm_append_snoc (.inl hex)
      next hq =>
        exact { h with
          early := .inl hex
          watchU := .inl hq
          watchN := .inr (.inl (Nat.le_refl 1)) }
    case drainN =>
      have hex : s.exited = true := h.exited_of_loop (hl ▸ nofun)
      split
      next t q hq => exact inv_takeN h hq perm_append_snoc (.inl hex)
      next hq =>
        exact { h with
          early := .inl hex
          -- the loop was past the urgent queue already: whoever watches that one still does
          watchU := h.watchU.imp_right <| Or.imp_left fun hw => absurd (hl ▸ hw) (by decide)
          watchN := .inl hq }
  | enqueue p urgent =>
    refine of_ite h fun hp => ?_
    have hw (i : Nat) : Watched i { s with prods := s.prods.set p .enqueued } :=
      .inr (exists_mem_set_self hp (Nat.zero_le i))
    have he := h.early_set p (.inr rfl)
    cases urgent with
    | true =>
      exact {
        perm := by
          simpa [setProd, List.append_assoc] using perm_range_succ (x := s.ran ++ s.aborted ++ s.qU) h.perm
        early := he, watchU := .inr (hw 0), watchN := .inr (hw 1) }
    | false =>
      exact {
        perm := by simpa [setProd, List.append_assoc, List.range_succ] using h.perm.append_right [s.next]
        early := he, watchU := .inr (hw 0), watchN := .inr (hw 1) }
  | load p =>
    refine of_ite h fun hp => ?_
    simp only [setProd]; split
    next hex =>
      exact { h with
        early := .inl hex
        watchU := .inr (.inr (exists_mem_set_self hp (Nat.zero_le 0)))
        watchN := .inr (.inr (exists_mem_set_self hp (Nat.zero_le 1))) }
    next hex =>
      have hl (i : Nat) : loopPos s.loop ≤ i := by
        rcases (h.early.resolve_left hex).loop with e | e <;> rw [e] <;> exact Nat.zero_le i
      exact { h with
        early := h.early_set p (.inl rfl)
        watchU := .inr (.inl (hl 0))
        watchN := .inr (.inl (hl 1)) }
  | prodDrain p =>
    refine of_ite (of_ite h fun hp => ?drainN) fun hp => ?drainU
    case drainU =>
      have hex : s.exited = true := h.exited_of_prod hp nofun
      split
      next t q hq => exact inv_takeU h hq perm_append_snoc (.inl hex)
      next hq =>
        exact { h with
          early := .inl hex
          watchU := .inl hq
          watchN := .inr (.inr (exists_mem_set_self hp (Nat.le_refl 1))) }
    case drainN =>
      have hex : s.exited = true := h.exited_of_prod hp nofun
      split
      next t q hq => exact inv_takeN h hq perm_append_snoc (.inl hex)
      next hq =>
        exact { h with
          early := .inl hex
          watchU := h.watchU.imp_right <| Or.imp_right <| exists_mem_set_of_not hp (by decide)
          watchN := .inl hq }

theorem inv_run {s : State} (h : Inv s) (steps : List Step) : Inv (run s steps) := by
  induction steps generalizing s with
  | nil => exact h
  | cons a rest ih => exact ih (inv_step h a)

theorem inv_reachable {s : State} (h : Reachable s) : Inv s := by
  obtain ⟨n, steps, rfl⟩ := h
  exact inv_run (inv_init n) steps

theorem not_watched {s : State} (hq : Quiescent s = true) {i : Nat} (hi : i < 2) : ¬ Watched i s := by
  obtain ⟨hl, hp⟩ : s.loop = .done ∧ ∀ x ∈ s.prods, x = .idle := by simpa [Quiescent] using hq
  rintro (hw | ⟨x, hx, hw⟩)
  · rw [hl] at hw; exact Nat.not_le_of_gt hi hw
  · rw [hp x hx] at hw; exact Nat.not_le_of_gt hi hw

theorem nothing_stranded (s : State) (h : Reachable s) (hq : Quiescent s = true) : s.qU = [] ∧ s.qN = [] :=
  have inv := inv_reachable h
  ⟨inv.watchU.resolve_right (not_watched hq (by decide)),
    inv.watchN.resolve_right (not_watched hq (by decide))⟩

theorem no_abort_before_exit (s : State) (h : Reachable s) (he : s.exited = false) : s.aborted = [] :=
  ((inv_reachable h).early.resolve_left (he ▸ nofun)).aborted

end Gnet.Proofs.Drain2
