import Gnet.Proofs.RingWrite
set_option linter.unusedSectionVars false
namespace Gnet.Proofs.Ring
open Gnet
variable {α : Type} [Inhabited α]

theorem new_spec (n : Int) : (Ring.new n : Ring α).WF ∧ (Ring.new n : Ring α).abs = [] := by
  unfold Ring.new
  split
  · exact empty_spec rfl
  · exact empty_spec (by simp)

theorem counters (rb : Ring α) (h : rb.WF) :
    rb.buffered = rb.abs.length ∧ rb.buffered + rb.available = rb.cap ∧
    (rb.isEmpty = true ↔ rb.buffered = 0) ∧
    (rb.isFull = true ↔ (rb.buffered = rb.cap ∧ 0 < rb.cap)) := by
  obtain ⟨_, _, hba, _, hs⟩ := shape h
  refine ⟨buffered_eq h, hba, ?_, ?_⟩
  · rw [isEmpty_iff h, buffered_eq h, List.length_eq_zero_iff]
  · rcases hs with ⟨he, _, hb⟩ | ⟨he, _⟩
    · simp [Ring.isFull, Ring.cap, he, hb]; omega
    · -- `r = w` in a non-empty state is the second layout with `size - r + w = size`
      have := lay h he
      simp [Ring.isFull, Ring.cap, he]; omega

theorem step_refines (gen : Nat → α) (rb : Ring α) (pos : Nat) (op : Fifo.Op α) (h : rb.WF) :
    ∃ rb' pos' o, Ring.step gen (rb, pos) op = some ((rb', pos'), o) ∧ rb'.WF ∧
      Fifo.Step gen (rb.abs, pos) op (rb'.abs, pos') o := by
  cases op with
  | write p =>
    obtain ⟨h1, h2, h3⟩ := write_spec rb p h
    simp only [Ring.step, h1, if_true]
    exact ⟨_, _, _, rfl, h2, h3 ▸ .write _ _ _⟩
  | writeByte c =>
    obtain ⟨h1, h2, h3⟩ := writeByte_spec rb c h
    simp only [Ring.step, h1, if_true]
    exact ⟨_, _, _, rfl, h2, h3 ▸ .writeByte _ _ _⟩
  | read n =>
    obtain ⟨h1, h2, h3, h4, h5⟩ := read_spec rb n h
    simp only [Ring.step, h1, if_true]
    refine ⟨_, _, _, rfl, h2, ?_⟩
    rw [h3, h4, List.length_take]; exact .read _ _ _ _ h5
  | readByte =>
    obtain ⟨h1, h2, h3, h4, h5⟩ := readByte_spec rb h
    simp only [Ring.step, h1, if_true]
    refine ⟨_, _, _, rfl, h2, ?_⟩
    rw [h3, h4, List.length_take]
    refine .readByte _ _ _ ?_
    rcases h5 with ⟨e, hl⟩ | ⟨e, hl⟩ <;> simp [e, hl]
  | peek n =>
    obtain ⟨h1, h2⟩ := peek_prefix rb n h
    simp only [Ring.step, h1, if_true]
    refine ⟨_, _, _, rfl, h, ?_⟩
    rw [h2]
    split
    next hn => exact .peekAll _ _ _ hn
    next hn => rw [List.length_take]; exact .peek _ _ _ (by omega)
  | discard n =>
    obtain ⟨h1, h2, h3, h4⟩ := discard_spec rb n h
    simp only [Ring.step, h1, if_true]
    refine ⟨_, _, _, rfl, h2, ?_⟩
    rw [h3, h4]; exact .discard _ _ _
  | bytes =>
    obtain ⟨h1, h2⟩ := bytes_spec rb h
    simp only [Ring.step, h1, if_true]
    exact ⟨_, _, _, rfl, h, h2 ▸ .bytes _ _⟩
  | readFrom sc =>
    obtain ⟨h1, h2, m, h3, h4, h5, h6⟩ := readFrom_spec gen sc rb pos 0 h
    simp only [Ring.step, h1, if_true]
    refine ⟨_, _, _, rfl, h2, ?_⟩
    rw [h3, h4, h5, Nat.zero_add]; exact .readFrom _ _ _ _ _ h6
  | writeTo sc =>
    obtain ⟨h1, h2, h3, h4, h5, h6⟩ := writeTo_spec rb sc h
    simp only [Ring.step, h1, if_true]
    refine ⟨_, _, _, rfl, h2, ?_⟩
    rw [h3, h4]; exact .writeTo _ _ _ _ _ h5 h6
  | reset => exact ⟨_, _, _, rfl, (reset_spec rb h).1, (reset_spec rb h).2 ▸ .reset _ _⟩

theorem run_refines_from (gen : Nat → α) (ops : List (Fifo.Op α)) :
    ∀ (rb : Ring α) (pos : Nat), rb.WF →
    ∃ rb' pos' os, Ring.run gen (rb, pos) ops = some ((rb', pos'), os) ∧ rb'.WF ∧
      Fifo.Run gen (rb.abs, pos) ops os (rb'.abs, pos') := by
  induction ops with
  | nil => exact fun rb pos h => ⟨_, _, _, rfl, h, .nil _⟩
  | cons op ops ih =>
    intro rb pos h
    obtain ⟨rb1, pos1, o, e1, w1, s1⟩ := step_refines gen rb pos op h
    obtain ⟨rb2, pos2, os, e2, w2, s2⟩ := ih rb1 pos1 w1
    exact ⟨_, _, _, by simp [Ring.run, e1, e2], w2, .cons _ _ _ _ _ _ _ s1 s2⟩

end Gnet.Proofs.Ring
