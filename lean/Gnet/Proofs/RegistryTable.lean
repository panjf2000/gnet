/-
  The matrix registry without the specification: `addConn`/`delConn` as explicit state updates.
-/
import Gnet.Proofs.RegistrySpec
namespace Gnet.Proofs.Registry
open Gnet

section table
variable (t : Nat → Option (Nat → Option Nat))

def cellT (r c : Nat) : Option Nat :=
  match t r with
  | none => none
  | some tr => tr c

/-- what `addConn`, the relocation in `delConn` and `clearCell` (count not yet zero) do -/
def setT (r c : Nat) (v : Option Nat) : Nat → Option (Nat → Option Nat) :=
  Matrix.upd t r (some (Matrix.upd (match t r with | none => fun _ => none | some tr => tr) c v))

def clearT (n : Int) (r c : Nat) : Nat → Option (Nat → Option Nat) :=
  if n = 0 then Matrix.upd t r none else setT t r c none

variable {t}

theorem cellT_of_row {r : Nat} {tr : Nat → Option Nat} (h : t r = some tr) (c : Nat) :
    cellT t r c = tr c := by
  unfold cellT; rw [h]

theorem row_of_cell {r c id : Nat} (h : cellT t r c = some id) : (t r).isSome := by
  unfold cellT at h
  cases e : t r with
  | none => rw [e] at h; cases h
  | some tr => rfl

theorem setT_of_row {r : Nat} {tr : Nat → Option Nat} (h : t r = some tr) (c : Nat)
    (v : Option Nat) :
    Matrix.upd t r (some (Matrix.upd tr c v)) = setT t r c v := by
  unfold setT; rw [h]

theorem cellT_setT (r c : Nat) (v : Option Nat) (r' c' : Nat) :
    cellT (setT t r c v) r' c' = if r' = r ∧ c' = c then v else cellT t r' c' := by
  unfold cellT setT
  by_cases hr : r' = r
  · subst hr
    by_cases hc : c' = c
    · simp [hc]
    · cases t r' <;> simp [hc]
  · simp [hr]

variable {n : Int}

/-- `h`: a row is dropped only when nothing else is left in it -/
theorem cellT_clearT {r c : Nat} (h : n = 0 → ∀ c', c' ≠ c → cellT t r c' = none) (r' c' : Nat) :
    cellT (clearT t n r c) r' c' = if r' = r ∧ c' = c then none else cellT t r' c' := by
  unfold clearT
  by_cases hz : n = 0
  · rw [if_pos hz]
    unfold cellT
    by_cases hr : r' = r
    · subst hr
      by_cases hc : c' = c
      · simp [hc]
      · simpa [hc, cellT] using (h hz c' hc).symm
    · simp [hr]
  · rw [if_neg hz, cellT_setT]

theorem clearT_row_isSome (hz : n ≠ 0) (r c : Nat) : (clearT t n r c r).isSome := by
  unfold clearT setT
  rw [if_neg hz, upd_same]
  rfl

end table

theorem clearCell_eq {m : Matrix} {r c : Nat} (h : (m.table r).isSome) :
    m.clearCell r c = some { m with table := clearT m.table (m.counts r) r c } := by
  obtain ⟨tr, ht⟩ := Option.isSome_iff_exists.1 h
  unfold Matrix.clearCell clearT
  split
  · rfl
  · simp only [ht, setT_of_row ht]

/-- the fill of row `r` when the occupied cells are those before `(R, C)` in row-major order -/
def hi (R C cols r : Nat) : Nat := if r < R then cols else if r = R then C else 0

theorem hi_self (R C cols : Nat) : hi R C cols R = C := by
  unfold hi; rw [if_neg (Nat.lt_irrefl R), if_pos rfl]

theorem hi_zero (cols r : Nat) : hi 0 0 cols r = 0 := by
  unfold hi; rw [if_neg (Nat.not_lt_zero r), ite_self]

theorem hi_of_lt {R C cols r : Nat} (h : r < R) : hi R C cols r = cols := if_pos h

theorem hi_of_gt {R C cols r : Nat} (h : R < r) : hi R C cols r = 0 := by
  unfold hi; rw [if_neg (by omega), if_neg (by omega)]

theorem lt_hi {R C cols r c : Nat} :
    c < hi R C cols r ↔ (r < R ∧ c < cols) ∨ (r = R ∧ c < C) := by
  unfold hi; split
  · omega
  · split <;> omega

theorem hi_succ (R C cols r : Nat) :
    hi R (C + 1) cols r = if r = R then C + 1 else hi R C cols r := by
  unfold hi; split
  · rw [if_neg (by omega)]
  · split <;> rfl

theorem hi_row_end (R cols r : Nat) : hi R cols cols r = hi (R + 1) 0 cols r := by
  unfold hi; split
  · rw [if_pos (by omega)]
  · split
    · rw [if_pos (by omega)]
    · rw [if_neg (by omega), ite_self]

def Next (cols R C R' C' : Nat) : Prop :=
  (C + 1 < cols ∧ R' = R ∧ C' = C + 1) ∨ (C + 1 = cols ∧ R' = R + 1 ∧ C' = 0)

theorem Next.hi {cols R C R' C' : Nat} (h : Next cols R C R' C') (r : Nat) :
    hi R' C' cols r = if r = R then C + 1 else hi R C cols r := by
  rcases h with ⟨_, rfl, rfl⟩ | ⟨e, rfl, rfl⟩
  · exact hi_succ R' C cols r
  · subst e; rw [← hi_row_end]; exact hi_succ R C (C + 1) r

/-- `Registry.hi`: plain `hi` would be `Next.hi` here -/
theorem Next.le_last {cols R C R' C' : Nat} (h : Next cols R C R' C') {r c : Nat}
    (hc : c < Registry.hi R' C' cols r) : r < R ∨ (r = R ∧ c ≤ C) := by
  rw [h.hi] at hc
  by_cases e : r = R
  · rw [if_pos e] at hc; exact .inr ⟨e, Nat.le_of_lt_succ hc⟩
  · rw [if_neg e] at hc
    exact .inl ((lt_hi.1 hc).elim (·.1) fun a => absurd a.1 e)

theorem Next.len {cols R C R' C' : Nat} (h : Next cols R C R' C') :
    R' * cols + C' = R * cols + C + 1 := by
  rcases h with ⟨_, rfl, rfl⟩ | ⟨e, rfl, rfl⟩
  · rfl
  · rw [Nat.succ_mul]; omega

theorem scanCols_none (tr : Nat → Option Nat) (cmin : Int) : ∀ n : Nat,
    (∀ c : Nat, c < n → (c : Int) > cmin → tr c = none) → Matrix.scanCols tr cmin n = none
  | 0, _ => rfl
  | n + 1, h => by
    unfold Matrix.scanCols
    split
    · rw [h n (by omega) ‹_›]
      exact scanCols_none tr cmin n (fun c hc => h c (by omega))
    · rfl

theorem scanCols_found (tr : Nat → Option Nat) (cmin : Int) (c : Nat) (hc : (c : Int) > cmin)
    (hs : (tr c).isSome) : ∀ n : Nat, c < n → (∀ c' : Nat, c < c' → c' < n → tr c' = none) →
    Matrix.scanCols tr cmin n = some c
  | 0, h, _ => by omega
  | n + 1, h, hn => by
    unfold Matrix.scanCols
    rw [if_pos (by omega)]
    by_cases e : c = n
    · subst e; rw [if_pos hs]
    · rw [hn n (by omega) (by omega)]
      exact scanCols_found tr cmin c hc hs n (by omega) (fun c' h1 h2 => hn c' h1 (by omega))

theorem scanRows_succ (m : Matrix) (r cl row : Nat) :
    Matrix.scanRows m r cl (row + 1) =
      if row ≥ r then
        if m.counts row = 0 then Matrix.scanRows m r cl row
        else
          if ((m.cols : Int) - 1 > (if row = r then (cl : Int) else -1)) then
            match m.table row with
            | none => none
            | some tr =>
              match Matrix.scanCols tr (if row = r then (cl : Int) else -1) m.cols with
              | some c => some (some (row, c))
              | none => Matrix.scanRows m r cl row
          else Matrix.scanRows m r cl row
      else some none := rfl

theorem scanRows_skip (m : Matrix) (r cl k : Nat) (hk : r ≤ k) : ∀ d,
    (∀ row, k ≤ row → row < k + d → m.counts row = 0) →
    Matrix.scanRows m r cl (k + d) = Matrix.scanRows m r cl k
  | 0, _ => rfl
  | d + 1, h => by
    show Matrix.scanRows m r cl ((k + d) + 1) = _
    rw [scanRows_succ, if_pos (show k + d ≥ r by omega),
      if_pos (h (k + d) (by omega) (by omega))]
    exact scanRows_skip m r cl k hk d (fun row h1 h2 => h row h1 (by omega))

theorem scanRows_below (m : Matrix) (r cl : Nat) : Matrix.scanRows m r cl r = some none := by
  cases r with
  | zero => rfl
  | succ r0 => rw [scanRows_succ, if_neg (by omega)]

theorem scanRows_found (m : Matrix) {r cl lr lc n : Nat} (hpos : r < lr ∨ (r = lr ∧ cl < lc))
    (hlc : lc < m.cols) (hcnt : m.counts lr ≠ 0)
    {mid : Nat} (hocc : cellT m.table lr lc = some mid)
    (hlast : ∀ c, lc < c → c < m.cols → cellT m.table lr c = none) (hn : lr < n)
    (hz : ∀ row, lr < row → row < n → m.counts row = 0) :
    Matrix.scanRows m r cl n = some (some (lr, lc)) := by
  obtain ⟨d, rfl⟩ : ∃ d, n = lr + 1 + d := ⟨n - (lr + 1), by omega⟩
  rw [scanRows_skip m r cl (lr + 1) (by omega) d fun row h1 h2 => hz row (by omega) h2]
  obtain ⟨tr, ht⟩ := Option.isSome_iff_exists.1 (row_of_cell hocc)
  simp only [cellT_of_row ht] at hocc hlast
  have hc : (if lr = r then (cl : Int) else -1) < lc := by split <;> omega
  simp only [scanRows_succ, if_pos (show lr ≥ r by omega), if_neg hcnt, ht]
  generalize (if lr = r then (cl : Int) else -1) = cmin at hc ⊢
  rw [if_pos (by omega),
    scanCols_found tr cmin lc hc (Option.isSome_of_eq_some hocc) m.cols hlc hlast]

theorem scanRows_none (m : Matrix) {r cl n : Nat} (hal : (m.table r).isSome)
    (hnone : ∀ c, cl < c → c < m.cols → cellT m.table r c = none)
    (hn : r < n) (hz : ∀ row, r < row → row < n → m.counts row = 0) :
    Matrix.scanRows m r cl n = some none := by
  obtain ⟨d, rfl⟩ : ∃ d, n = r + 1 + d := ⟨n - (r + 1), by omega⟩
  rw [scanRows_skip m r cl (r + 1) (by omega) d fun row h1 h2 => hz row (by omega) h2]
  obtain ⟨tr, ht⟩ := Option.isSome_iff_exists.1 hal
  simp only [cellT_of_row ht] at hnone
  rw [scanRows_succ, if_pos (Nat.le_refl r)]
  split
  · exact scanRows_below m r cl
  · simp only [ht, ↓reduceIte, scanCols_none tr cl m.cols (fun c h1 h2 => hnone c (by omega) h1),
      scanRows_below, ite_self]

theorem addConn_eq (m : Matrix) (id el : Nat) (h : m.row < m.rows) :
    m.addConn id el = { m with
      objs := Matrix.upd m.objs id
        { m.objs id with el := el % 256, grow := m.row % 256, gcol := m.col % 65536 },
      fd2gfd := Matrix.updI m.fd2gfd (m.objs id).fd (some (m.row % 256, m.col % 65536)),
      table := setT m.table m.row m.col (some id),
      counts := Matrix.upd m.counts m.row (m.counts m.row + 1),
      row := if m.col + 1 = m.cols then m.row + 1 else m.row,
      col := if m.col + 1 = m.cols then 0 else m.col + 1 } := by
  unfold Matrix.addConn
  rw [if_neg (by omega)]
  dsimp only
  split <;> rfl

/-- `delConn` of `fd` in cell `(r, cl)` up to the compaction; all of it while iterating -/
def delCore (m : Matrix) (fd : Int) (r cl : Nat) : Matrix :=
  { m with
    fd2gfd := Matrix.updI m.fd2gfd fd none,
    counts := Matrix.upd m.counts r (m.counts r - 1),
    table := clearT m.table (m.counts r - 1) r cl,
    row := if m.row > r ∨ m.col > cl then r else m.row,
    col := if m.row > r ∨ m.col > cl then cl else m.col }

/-- `mid` has moved from `(lr, lc)` into the hole `(r, cl)` -/
def moveInto (m : Matrix) (r cl lr lc mid : Nat) : Matrix :=
  let counts := Matrix.upd m.counts lr (m.counts lr - 1)
  let counts := Matrix.upd counts r (counts r + 1)
  { m with
    objs := Matrix.upd m.objs mid { m.objs mid with grow := r % 256, gcol := cl % 65536 },
    fd2gfd := Matrix.updI m.fd2gfd (m.objs mid).fd (some (r % 256, cl % 65536)),
    table := clearT (setT m.table r cl (some mid)) (counts lr) lr lc,
    counts := counts, row := lr, col := lc }

/-- the text of `Matrix.delConn` from the scan on, copied: `delConn_eq` ends in `rfl` against it,
    so a change of the model shows there -/
def compact (m : Matrix) (r cl : Nat) : Option Matrix :=
  match Matrix.scanRows m r cl m.rows with
  | none => none
  | some none => some m
  | some (some (row, column)) =>
    match m.table row with
    | none => none
    | some trow =>
      match trow column with
      | none => none
      | some mid =>
        let mc := m.objs mid
        let mc' : MConn := { mc with grow := r % 256, gcol := cl % 65536 }
        let m := { m with objs := Matrix.upd m.objs mid mc',
                          fd2gfd := Matrix.updI m.fd2gfd mc.fd (some (mc'.grow, mc'.gcol)) }
        match m.table r with
        | none => none
        | some tr =>
          let m := { m with table := Matrix.upd m.table r (some (Matrix.upd tr cl (some mid))) }
          let m := { m with counts := Matrix.upd m.counts row (m.counts row - 1) }
          let m := { m with counts := Matrix.upd m.counts r (m.counts r + 1) }
          match Matrix.clearCell m row column with
          | none => none
          | some m => some { m with row := row, col := column }

theorem delConn_eq (m : Matrix) (id : Nat)
    (h : (m.table (m.objs id).grow).isSome) :
    m.delConn id =
      let c := m.objs id
      let m1 := delCore m c.fd c.grow c.gcol
      if m1.disableCompact = false ∧ (m1.table c.grow).isSome then compact m1 c.grow c.gcol
      else some m1 := by
  -- the model puts the cursor `if` around the record, `delCore` inside two fields (`e`), and
  -- tests `disableCompact ∨ isNone` where the statement has the positive form (`cond`)
  have e : delCore m (m.objs id).fd (m.objs id).grow (m.objs id).gcol =
      if m.row > (m.objs id).grow ∨ m.col > (m.objs id).gcol
      then { delCore m (m.objs id).fd (m.objs id).grow (m.objs id).gcol with
        row := (m.objs id).grow, col := (m.objs id).gcol }
      else { delCore m (m.objs id).fd (m.objs id).grow (m.objs id).gcol with
        row := m.row, col := m.col } := by
    unfold delCore
    by_cases hb : m.row > (m.objs id).grow ∨ m.col > (m.objs id).gcol
    · simp only [if_pos hb]
    · simp only [if_neg hb]
  have cond : ∀ (m1 : Matrix) (r : Nat) (a b : Option Matrix),
      (if m1.disableCompact ∨ (m1.table r).isNone then a else b) =
        if m1.disableCompact = false ∧ (m1.table r).isSome then b else a := by
    intro m1 r a b
    cases m1.disableCompact <;> cases m1.table r <;> simp
  refine Eq.trans ?_ (cond _ _ _ _)
  unfold Matrix.delConn
  dsimp only
  -- `by exact`: the `clearCell` in the goal is of a record update of `m` with the same table;
  -- `h` elaborated first would fix the matrix to `m` and the pattern would not be found
  rw [clearCell_eq (by exact h), e]
  dsimp only
  rw [upd_same]
  rfl

theorem compact_of_scan_none {m : Matrix} {r cl : Nat}
    (h : Matrix.scanRows m r cl m.rows = some none) : compact m r cl = some m := by
  unfold compact; rw [h]

theorem compact_of_scan {m : Matrix} {r cl lr lc mid : Nat}
    (hscan : Matrix.scanRows m r cl m.rows = some (some (lr, lc)))
    (hmid : cellT m.table lr lc = some mid) (hal : (m.table r).isSome) :
    compact m r cl = some (moveInto m r cl lr lc mid) := by
  obtain ⟨tr, htr⟩ := Option.isSome_iff_exists.1 hal
  obtain ⟨trow, htrow⟩ := Option.isSome_iff_exists.1 (row_of_cell hmid)
  rw [cellT_of_row htrow] at hmid
  unfold compact
  simp only [hscan, htrow, hmid, htr]
  rw [clearCell_eq, setT_of_row htr]
  · rfl
  · show (Matrix.upd m.table r _ lr).isSome
    rw [upd_apply]; split <;> simp [htrow]

theorem moveInto_counts {m : Matrix} {fd : Int} {r cl lr lc mid : Nat} (r' : Nat) :
    (moveInto (delCore m fd r cl) r cl lr lc mid).counts r' =
      if r' = lr then m.counts lr - 1 else m.counts r' := by
  simp only [moveInto, delCore]
  by_cases e : r = lr
  · subst e
    simp only [upd_same, upd_apply]
    split
    · omega
    · rfl
  · rw [upd_other (i := r) e, upd_same, upd_other (i := lr) (Ne.symm e)]
    by_cases e1 : r' = r
    · subst e1; rw [upd_same, if_neg e]; omega
    · rw [upd_other e1, upd_apply, upd_other e1]

end Gnet.Proofs.Registry
