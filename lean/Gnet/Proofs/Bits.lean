/-
  `Nat`-level facts behind the generated arithmetic: `bitLen`, the specification `ceilPow2`, and the
  "smear" cascade of `FloorToPowerOfTwo`.
-/
import Gnet.Basic
import Gnet.Basic.Bits
namespace Gnet.Proofs.Bits
open Gnet

theorem pow_lt_pow_iff {a b : Nat} : 2 ^ a < 2 ^ b ↔ a < b := Nat.pow_lt_pow_iff_right (by decide)

theorem pow_le_pow_iff {a b : Nat} : 2 ^ a ≤ 2 ^ b ↔ a ≤ b := Nat.pow_le_pow_iff_right (by decide)

theorem bitLen_le_iff {m j : Nat} : bitLen m ≤ j ↔ m < 2 ^ j := by
  unfold bitLen
  split
  · simp [*, Nat.two_pow_pos]
  · exact Nat.log2_lt ‹_›

theorem bitLen_eq {m : Nat} (h0 : m ≠ 0) : bitLen m = Nat.log2 m + 1 := if_neg h0

theorem bitLen_pos {m : Nat} (h0 : m ≠ 0) : 0 < bitLen m :=
  Nat.lt_of_not_le (mt bitLen_le_iff.1 (by omega))

theorem two_pow_bitLen_le {m : Nat} (h0 : m ≠ 0) : 2 ^ (bitLen m - 1) ≤ m :=
  Nat.le_of_not_lt (mt bitLen_le_iff.2 (by have := bitLen_pos h0; omega))

theorem bitLen_mono {a b : Nat} (h : a ≤ b) : bitLen a ≤ bitLen b :=
  bitLen_le_iff.2 (Nat.lt_of_le_of_lt h (bitLen_le_iff.1 (Nat.le_refl _)))

theorem bitLen_pred_le_iff {s j : Nat} : bitLen (s - 1) ≤ j ↔ s ≤ 2 ^ j := by
  have := Nat.two_pow_pos j
  rw [bitLen_le_iff]; omega

theorem le_two_pow_bitLen_pred (s : Nat) : s ≤ 2 ^ bitLen (s - 1) := bitLen_pred_le_iff.1 (Nat.le_refl _)

theorem two_pow_bitLen_pred_lt {s : Nat} (h : 0 < s) : 2 ^ bitLen (s - 1) < 2 * s := by
  cases e : bitLen (s - 1) with
  | zero => omega
  | succ j =>
    have := mt (bitLen_le_iff (m := s - 1) (j := j)).2 (by omega)
    rw [Nat.pow_succ]; omega

theorem ceilPow2_eq (n : Nat) : ceilPow2 n = 2 ^ bitLen (max n 2 - 1) := by
  unfold ceilPow2
  split
  · rw [Nat.max_eq_right ‹_›]; rfl
  · rw [Nat.max_eq_left (by omega), bitLen_eq (by omega)]

theorem ceilPow2_isPow2 (n : Nat) : ∃ k, ceilPow2 n = 2 ^ k := ⟨_, ceilPow2_eq n⟩

theorem ceilPow2_le_iff {n j : Nat} : ceilPow2 n ≤ 2 ^ j ↔ max n 2 ≤ 2 ^ j := by
  rw [ceilPow2_eq, pow_le_pow_iff, bitLen_pred_le_iff]

theorem le_ceilPow2 (n : Nat) : max n 2 ≤ ceilPow2 n := by
  rw [ceilPow2_eq]
  exact le_two_pow_bitLen_pred _

theorem ceilPow2_mono {n m : Nat} (h : n ≤ m) : ceilPow2 n ≤ ceilPow2 m := by
  rw [ceilPow2_eq, ceilPow2_eq, pow_le_pow_iff]
  exact bitLen_mono (by omega)

theorem ceilPow2_idem (n : Nat) : ceilPow2 (ceilPow2 n) = ceilPow2 n := by
  refine Nat.le_antisymm ?_ (Nat.le_trans (Nat.le_max_left ..) (le_ceilPow2 _))
  have := le_ceilPow2 n
  rw [ceilPow2_eq n] at this ⊢
  exact ceilPow2_le_iff.2 (by omega)

theorem ceilPow2_bracket {m : Nat} (h : 0 < m) :
    ∃ k, ceilPow2 m = 2 ^ (k + 1) ∧ 2 ^ k ≤ m ∧ m ≤ 2 ^ (k + 1) := by
  have h1 := le_ceilPow2 m
  have h2 := two_pow_bitLen_pred_lt (s := max m 2) (by omega)
  rw [← ceilPow2_eq] at h2
  obtain ⟨_ | k, hk⟩ := ceilPow2_isPow2 m
  · rw [hk] at h1; omega
  · rw [hk, Nat.pow_succ] at h1 h2
    exact ⟨k, hk, by omega, by rw [Nat.pow_succ]; omega⟩

/-- `y` has no bit above position `k`, and the `w` bits from `k` downwards are set -/
def Smeared (k w y : Nat) : Prop :=
  (∀ i, k < i → y.testBit i = false) ∧ (∀ i, i ≤ k → k < i + w → y.testBit i = true)

theorem smeared_init {x : Nat} (h0 : x ≠ 0) : Smeared x.log2 1 x := by
  refine ⟨fun i hi => Nat.testBit_lt_two_pow ((Nat.log2_lt h0).1 hi), fun i h1 h2 => ?_⟩
  rw [show i = x.log2 by omega]
  exact Nat.testBit_log2 h0

theorem smeared_step {k w s y : Nat} (hs : s ≤ w) (h : Smeared k w y) :
    Smeared k (w + s) (y ||| y >>> s) := by
  obtain ⟨h1, h2⟩ := h
  constructor
  · intro i hi
    rw [Nat.testBit_or, Nat.testBit_shiftRight, h1 i hi, h1 (s + i) (by omega)]; rfl
  · intro i hi hk
    rw [Nat.testBit_or, Nat.testBit_shiftRight]
    -- bit `i` is in the old run, or `s` positions below it
    by_cases hc : k < i + w
    · rw [h2 i hi hc]; rfl
    · rw [h2 (s + i) (by omega) (by omega)]; simp

theorem smeared_full {k w y : Nat} (hw : k < w) (h : Smeared k w y) : y = 2 ^ (k + 1) - 1 := by
  obtain ⟨h1, h2⟩ := h
  apply Nat.eq_of_testBit_eq
  intro i
  rw [Nat.testBit_two_pow_sub_one]
  by_cases hi : i < k + 1
  · rw [h2 i (by omega) (by omega)]; simp [hi]
  · rw [h1 i (by omega)]; simp [hi]

theorem smeared_lt {k w y : Nat} (h : Smeared k w y) : y < 2 ^ (k + 1) :=
  Nat.lt_pow_two_of_testBit _ fun i hi => h.1 i hi

end Gnet.Proofs.Bits
