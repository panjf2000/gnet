/-
  "Never stuck" for the wake-up protocol (C03). At `lWait`, `taskCov` gives an edge (the loop wakes and a
  fresh Dequeue of a non-empty queue run alone returns a task) or a pending producer, which is run to the
  end of its attempt: eCasTail, eAdd, pCas, pWrite, edge. Inside a Dequeue the loop runs it alone to its
  return; elsewhere it runs down `rankL` to `lWait`.
-/
import Gnet.Model.Wake
import Gnet.Proofs.WakeMsq
import Gnet.Proofs.WakeSolo
import Gnet.Proofs.WakeInv
import Gnet.Proofs.WakeStep
namespace Gnet.Proofs.Wake
open Gnet Gnet.Wake
open Gnet.Proofs.Msq (thr DeqPc PendPc_iff GoodT SoloDeq)

def execN (s : State) : Nat := s.executedU.length + s.executedL.length

def Progress (s : State) : Prop := ∃ evs, execN s < execN (runEvs s evs)

theorem execN_step_le (s : State) (tid : Nat) : execN s ≤ execN (step s tid).1 := by
  cases ht : s.threads[tid]? with
  | none => simp [step, ht]
  | some t =>
    simp only [step, ht]
    cases hpc : t.pc <;> simp only
    all_goals (repeat' split)
    all_goals first | exact Nat.le_refl _ | (simp [execN, setThread, beginDeqU, beginDeqL]; done)

theorem execN_start_le (s : State) (tid v : Nat) (l : Bool) : execN s ≤ execN (start s tid v l) := by
  unfold start
  repeat' split
  all_goals exact Nat.le_refl _

theorem execN_runEvs_le : ∀ (evs : List Ev) (s : State), execN s ≤ execN (runEvs s evs)
  | [], _ => Nat.le_refl _
  | .start tid v l :: es, s => Nat.le_trans (execN_start_le s tid v l) (execN_runEvs_le es _)
  | .step tid :: es, s => Nat.le_trans (execN_step_le s tid) (execN_runEvs_le es _)

theorem runEvs_append : ∀ (a b : List Ev) (s : State), runEvs s (a ++ b) = runEvs (runEvs s a) b
  | [], _, _ => rfl
  | _ :: es, b, _ => runEvs_append es b _

theorem Progress.of_runEvs {s : State} (evs : List Ev) (h : Progress (runEvs s evs)) : Progress s := by
  obtain ⟨evs', h⟩ := h
  exact ⟨evs ++ evs', by rw [runEvs_append]; exact Nat.lt_of_le_of_lt (execN_runEvs_le evs s) h⟩

theorem Progress.of_step {s : State} (tid : Nat) (h : Progress (step s tid).1) : Progress s :=
  Progress.of_runEvs [.step tid] h

theorem lift_solo {b : Bool} {q qk : Msq.State} (hs : SoloDeq 0 q qk) : ∀ (s : State) (t : Thread),
    qOf s b = q → s.threads[0]? = some t → t.pc = lDeq b → ∃ evs, runEvs s evs = setQ s b qk := by
  induction hs with
  | refl q => intro s t hq _ _; subst hq; exact ⟨[], by cases b <;> rfl⟩
  | step hr _ ih =>
    intro s t hq ht hpc
    subst hq
    obtain ⟨evs, he⟩ := ih (setQ s b (Msq.step (qOf s b) 0).1) t (qOf_setQ_self ..) ht hpc
    refine ⟨.step 0 :: evs, ?_⟩
    have : (step s 0).1 = setQ s b (Msq.step (qOf s b) 0).1 := by
      cases b <;> simp only [qOf, lDeq] at hr hpc <;> simp only [step, ht, hpc, hr] <;> rfl
    simp only [runEvs, apply, this, he]
    cases b <;> rfl

theorem lDeq_return {s : State} (W : WInv s) (b : Bool) (hpc : (wt s 0).pc = lDeq b) :
    (∀ v, (Msq.step (qOf s b) 0).2 = some (.deqSome v) → execN s < execN (step s 0).1) ∧
    ((Msq.step (qOf s b) 0).2 = some .deqNone →
      (∀ b', (qOf (step s 0).1 b').absQ = (qOf (setQ s b (Msq.step (qOf s b) 0).1) b').absQ) ∧
      (wt (step s 0).1 0).pc = (bif b then .lStore else .lDeqL) ∧
      (b = false → (thr (step s 0).1.low 0).pc = .dLoadHead)) := by
  have ht := getElem?_of_lt W.pos
  have hlc : b = false → (wt s 0).lowCount < maxAsync := fun e => by
    rw [W.lc (by rw [hpc, e]; rfl)]; decide
  have hiL : b = false → (thr s.low 0).pc = .idle := fun e => by
    have := W.subOkAt 0 true; rw [hpc, e] at this; exact beq_iff_eq.1 this
  have hltL : 0 < s.low.threads.length := W.len true ▸ W.pos
  cases b <;> simp only [qOf, lDeq] at hpc ⊢ <;> refine ⟨fun v hv => ?_, fun hn => ?_⟩
  · simp only [step, ht, hpc, hv]
    split <;> simp [execN, setThread, beginDeqU]
  · simp only [step, ht, hpc, hn, if_pos (hlc rfl)]
    exact ⟨fun b' => by cases b' <;> first | rfl | exact Msq.start_absQ _ _ _,
      wt_setThread_self W.pos ▸ rfl,
      fun _ => by
        show (thr (Msq.start s.low 0 .deq) 0).pc = _
        exact Msq.start_pc .deq hltL (hiL rfl)⟩
  · simp only [step, ht, hpc, hv]
    (repeat' split) <;> simp [execN, setThread, beginDeqL]
  · simp only [step, ht, hpc, hn]
    exact ⟨fun b' => by cases b' <;> rfl, wt_setThread_self W.pos ▸ rfl, nofun⟩

theorem run_lDeq {s : State} (W : WInv s) (b : Bool) (hpc : (wt s 0).pc = lDeq b) :
    Progress s ∨ ∃ evs, (∀ b', (qOf (runEvs s evs) b').absQ = (qOf s b').absQ) ∧
      ¬ GoodT (qOf s b) (thr (qOf s b) 0) ∧
      (wt (runEvs s evs) 0).pc = (bif b then .lStore else .lDeqL) ∧
      (b = false → (thr (runEvs s evs).low 0).pc = .dLoadHead) := by
  have hlt0 : 0 < (qOf s b).threads.length := by rw [W.len]; exact W.pos
  have hd : DeqPc (thr (qOf s b) 0).pc = true := subOk_lDeq b _ ▸ hpc ▸ W.subOkAt 0 b
  obtain ⟨qk, hsolo, hres⟩ := Msq.solo_deq _ (qOf s b) (W.inv b) hlt0 hd (Nat.le_refl _)
  obtain ⟨evs, hrun⟩ := lift_solo hsolo s _ rfl (getElem?_of_lt W.pos) hpc
  obtain ⟨h1, h2⟩ := lDeq_return (hrun ▸ winv_runEvs evs s W) b (s := setQ s b qk) hpc
  rw [qOf_setQ_self] at h1 h2
  rcases hres with ⟨v, hv⟩ | ⟨hn, ha, hg⟩
  · exact .inl (Progress.of_runEvs evs (hrun ▸ ⟨[.step 0], h1 v hv⟩))
  · obtain ⟨h3, h4, h5⟩ := h2 hn
    refine .inr ⟨evs ++ [.step 0], ?_⟩
    rw [runEvs_append, hrun]
    refine ⟨fun b' => (h3 b').trans ?_, hg, h4, h5⟩
    revert b'
    exact forall_q b (by simp only [qOf_setQ_self]; exact ha) (by simp only [qOf_setQ_not])

theorem prog_lDeqU_good {s : State} (W : WInv s) (hpc : (wt s 0).pc = .lDeqU) (hq : anyQueued s)
    (hg : s.urgent.absQ ≠ [] → GoodT s.urgent (thr s.urgent 0)) : Progress s := by
  rcases run_lDeq W false hpc with h | ⟨evs, ha, hng, h1, h2⟩
  · exact h
  · have hue : s.urgent.absQ = [] := Classical.byContradiction fun h => hng (hg h)
    have hle : s.low.absQ ≠ [] := hq.resolve_left (· hue)
    -- the fresh Dequeue of the non-empty low-priority queue is bound to succeed
    have hg : GoodT (runEvs s evs).low (thr (runEvs s evs).low 0) :=
      .inr ⟨(ha true).symm ▸ hle, .inl (by rw [h2 rfl]; rfl)⟩
    exact Progress.of_runEvs evs
      ((run_lDeq (winv_runEvs evs s W) true h1).elim id fun ⟨_, _, hng', _⟩ => absurd hg hng')

theorem prog_lWait_edge {s : State} (W : WInv s) (hpc : (wt s 0).pc = .lWait) (he : s.edge = true)
    (hq : anyQueued s) : Progress s := by
  have ht := getElem?_of_lt W.pos
  have hiU : (thr s.urgent 0).pc = .idle := (W.tok 0).idle (hpc ▸ rfl) false
  have W' := winv_step W 0
  apply Progress.of_step 0
  simp only [step, ht, hpc, he, if_true, beginDeqU] at W' ⊢
  refine prog_lDeqU_good W' (wt_setThread_self W.pos ▸ rfl)
    (hq.imp (fun h => (Msq.start_absQ ..).symm ▸ h) id) fun h => .inr ⟨h, .inl ?_⟩
  show Msq.EarlyD (thr (Msq.start s.urgent 0 .deq) 0).pc = true
  rw [Msq.start_pc .deq (W.len false ▸ W.pos) hiU]; rfl

theorem lt_of_pc_ne_idle {s : State} {j : Nat} (h : (wt s j).pc ≠ .idle) : j < s.threads.length :=
  Classical.byContradiction fun hn => h (by rw [wt_of_ge (Nat.le_of_not_lt hn)])

theorem prog_writer {s : State} (W : WInv s) (hpc : (wt s 0).pc = .lWait) (hq : anyQueued s)
    {j : Nat} (hj : (wt s j).pc = .pWrite) : Progress s := by
  have h0 : 0 < j := (W.tok j).pos (by rw [hj]; rfl)
  have ht := getElem?_of_lt (lt_of_pc_ne_idle (j := j) (by rw [hj]; nofun))
  have W' := winv_step W j
  apply Progress.of_step j
  simp only [step, ht, hj] at W' ⊢
  exact prog_lWait_edge W' (by rw [wt_setThread_ne (Nat.ne_of_lt h0)]; exact hpc) rfl hq

theorem prog_cas {s : State} (W : WInv s) (hpc : (wt s 0).pc = .lWait) (he : s.edge = false)
    (hq : anyQueued s) {j : Nat} (hj : (wt s j).pc = .pCas) : Progress s := by
  have h0 : 0 < j := (W.tok j).pos (by rw [hj]; rfl)
  have hlt := lt_of_pc_ne_idle (j := j) (by rw [hj]; nofun)
  have ht := getElem?_of_lt hlt
  by_cases hw : s.wakeupCall = 0
  · have W' := winv_step W j
    apply Progress.of_step j
    simp only [step, ht, hj, hw, if_true] at W' ⊢
    exact prog_writer W' (by rw [wt_setThread_ne (Nat.ne_of_lt h0)]; exact hpc) hq (j := j)
      (wt_setThread_self hlt ▸ rfl)
  · rcases W.flagCov (W.flag.resolve_left hw) with h | ⟨k, _, hk⟩ | h
    · rw [he] at h; cases h
    · exact prog_writer W hpc hq hk
    · rw [hpc] at h; cases h

theorem anyQueued_mono {s s' : State} (h : ∀ b, (qOf s b).absQ ≠ [] → (qOf s' b).absQ ≠ []) :
    anyQueued s → anyQueued s' := Or.imp (h false) (h true)

theorem step_pEnq {s : State} (b : Bool) {tid : Nat} {t : Thread} (ht : s.threads[tid]? = some t)
    (hpc : t.pc = pEnq b) :
    (step s tid).1 = match (Msq.step (qOf s b) tid).2 with
      | some _ => setThread (setQ s b (Msq.step (qOf s b) tid).1) tid { t with pc := .pCas }
      | none => setQ s b (Msq.step (qOf s b) tid).1 := by
  cases b <;> simp only [step, ht, hpc, pEnq, qOf] <;> cases (Msq.step _ tid).2 <;> rfl

theorem enq_step_live {s : State} (W : WInv s) (hpc : (wt s 0).pc = .lWait) (hq : anyQueued s) (b : Bool)
    {j : Nat} (hj : (wt s j).pc = pEnq b) :
    j < s.threads.length ∧ j < (qOf s b).threads.length ∧ (wt (step s j).1 0).pc = .lWait ∧
    anyQueued (step s j).1 := by
  have h0 : 0 < j := (W.tok j).pos (hj ▸ LoopPc_pEnq b)
  have hlt := lt_of_pc_ne_idle (j := j) (by rw [hj]; cases b <;> nofun)
  have hltQ : j < (qOf s b).threads.length := by rw [W.len]; exact hlt
  have hne := Msq.step_enq_absQ hltQ (subOk_pEnq b _ ▸ hj ▸ W.subOkAt j b)
  refine ⟨hlt, hltQ, ?_, ?_⟩ <;> rw [step_pEnq b (getElem?_of_lt hlt) hj]
  · cases (Msq.step (qOf s b) j).2
    · exact hpc
    · rw [wt_setThread_ne (Nat.ne_of_lt h0)]; exact hpc
  · have : ∀ s', qOf s' b = (Msq.step (qOf s b) j).1 → qOf s' (!b) = qOf s (!b) → anyQueued s' :=
      fun s' h1 h2 => anyQueued_mono (forall_q b (h1 ▸ hne) (h2 ▸ id)) hq
    cases (Msq.step (qOf s b) j).2 <;> exact this _ (qOf_setQ_self ..) (qOf_setQ_not ..)

theorem prog_add {s : State} (W : WInv s) (hpc : (wt s 0).pc = .lWait) (he : s.edge = false)
    (hq : anyQueued s) (b : Bool) {j : Nat} (hj : (wt s j).pc = pEnq b)
    (hu : (thr (qOf s b) j).pc = .eAdd) : Progress s := by
  obtain ⟨hlt, hltQ, hl, hq'⟩ := enq_step_live W hpc hq b hj
  have W' := winv_step W j
  apply Progress.of_step j
  rw [step_pEnq b (getElem?_of_lt hlt) hj, Msq.step_eAdd_ret hltQ hu] at W' hl hq' ⊢
  exact prog_cas W' hl he hq' (j := j) (wt_setThread_self hlt ▸ rfl)

theorem prog_tail {s : State} (W : WInv s) (hpc : (wt s 0).pc = .lWait) (he : s.edge = false)
    (hq : anyQueued s) (b : Bool) {j : Nat} (hj : (wt s j).pc = pEnq b)
    (hu : (thr (qOf s b) j).pc = .eCasTail) : Progress s := by
  obtain ⟨hlt, hltQ, hl, hq'⟩ := enq_step_live W hpc hq b hj
  obtain ⟨hr, hn⟩ := Msq.step_eCasTail_next hltQ hu
  have W' := winv_step W j
  apply Progress.of_step j
  rw [step_pEnq b (getElem?_of_lt hlt) hj, hr] at W' hl hq' ⊢
  exact prog_add W' hl he hq' b hj (by rw [qOf_setQ_self]; exact hn)

theorem prog_lWait {s : State} (W : WInv s) (hpc : (wt s 0).pc = .lWait) (hq : anyQueued s) :
    Progress s := by
  cases he : s.edge with
  | true => exact prog_lWait_edge W hpc he hq
  | false =>
    obtain ⟨j, h0, hp⟩ : Pending s := by
      obtain ⟨b, hb⟩ : ∃ b, (qOf s b).absQ ≠ [] := hq.elim (⟨false, ·⟩) (⟨true, ·⟩)
      rcases W.taskCov b hb with h | h | h
      · rw [he] at h; cases h
      · exact h
      · rw [hpc] at h; cases b <;> cases h
    unfold pendAt at hp
    cases hj : (wt s j).pc <;> rw [hj] at hp
    case pEnqU =>
      exact ((PendPc_iff _).1 hp).elim (prog_tail W hpc he hq false hj) (prog_add W hpc he hq false hj)
    case pEnqL =>
      exact ((PendPc_iff _).1 hp).elim (prog_tail W hpc he hq true hj) (prog_add W hpc he hq true hj)
    case pCas => exact prog_cas W hpc he hq hj
    case pWrite => exact prog_writer W hpc hq hj
    all_goals cases hp

/-- 1 + the number of steps the loop still takes by itself from the end of a round to `epoll_wait` -/
def rankL : Pc → Nat
  | .lStore => 6 | .lEmptyL => 5 | .lEmptyU => 4 | .lCas => 3 | .lWrite => 2 | .lWait => 1
  | _ => 0

theorem round_step {s : State} (W : WInv s) (hr : 1 < rankL (wt s 0).pc) :
    0 < rankL (wt (step s 0).1 0).pc ∧ rankL (wt (step s 0).1 0).pc < rankL (wt s 0).pc ∧
    (anyQueued s → anyQueued (step s 0).1) := by
  have ht := getElem?_of_lt W.pos
  have hs : ∀ (s' : State) t', s'.threads = s.threads → wt (setThread s' 0 t') 0 = t' :=
    fun s' t' h => wt_setThread_self (h ▸ W.pos)
  cases hpc : (wt s 0).pc <;> rw [hpc] at hr <;> try (exact absurd hr (by decide))
  all_goals
    simp only [step, ht, hpc]
    (try split) <;> exact ⟨by simp [rankL, hs], by simp [rankL, hs], id⟩

theorem prog_round {s : State} (W : WInv s) (hq : anyQueued s) (h0 : 0 < rankL (wt s 0).pc) : Progress s := by
  by_cases h1 : rankL (wt s 0).pc = 1
  · refine prog_lWait W ?_ hq
    revert h1
    cases (wt s 0).pc <;> simp [rankL]
  · obtain ⟨a, b, c⟩ := round_step W (by omega)
    exact Progress.of_step 0 (prog_round (winv_step W 0) (c hq) a)
termination_by rankL (wt s 0).pc

theorem never_stuck_inv {s : State} (W : WInv s) (hq : anyQueued s) (hx : (wt s 0).pc ≠ .lExit) :
    Progress s := by
  have next : ∀ {evs}, (∀ b', (qOf (runEvs s evs) b').absQ = (qOf s b').absQ) →
      anyQueued (runEvs s evs) := fun h => anyQueued_mono (fun b => (h b).symm ▸ id) hq
  by_cases hU : (wt s 0).pc = .lDeqU
  · rcases run_lDeq W false hU with h | ⟨evs, ha, _, h1, _⟩
    · exact h
    · have W' := winv_runEvs evs s W
      rcases run_lDeq W' true h1 with h | ⟨evs', ha', _, h1', _⟩
      · exact Progress.of_runEvs evs h
      · exact Progress.of_runEvs evs (Progress.of_runEvs evs'
          (prog_round (winv_runEvs evs' _ W')
            (anyQueued_mono (fun b => (ha' b).symm ▸ id) (next ha))
            (by rw [h1']; decide)))
  by_cases hL : (wt s 0).pc = .lDeqL
  · rcases run_lDeq W true hL with h | ⟨evs, ha, _, h1, _⟩
    · exact h
    · exact Progress.of_runEvs evs (prog_round (winv_runEvs evs s W) (next ha) (by rw [h1]; decide))
  · have hT := (W.tok 0).1
    simp only [if_true] at hT
    refine prog_round W hq ?_
    revert hT hU hL hx; cases (wt s 0).pc <;> simp [rankL, LoopPc]

end Gnet.Proofs.Wake
