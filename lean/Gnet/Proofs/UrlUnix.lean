/-
  unix addresses: `path.Clean` / `path.Join` (model) and `url.Parse` on  "unix://" path.
-/
import Gnet.Proofs.UrlParse
namespace Gnet.Proofs.Url
open Gnet Gnet.Url

theorem splitSlash_ne_nil (l : Bytes) : splitSlash l ≠ [] := by
  induction l with
  | nil => simp [splitSlash]
  | cons c cs ih =>
    unfold splitSlash
    cases h : splitSlash cs with
    | nil => simp
    | cons s ss => by_cases hc : c = '/' <;> simp [hc]

-- the recursion equation of `splitSlash` without the `[]` case of its `match`, which cannot occur
theorem splitSlash_cons (c : Char) (cs : Bytes) :
    ∃ s ss, splitSlash cs = s :: ss ∧
      splitSlash (c :: cs) = if c = '/' then [] :: s :: ss else (c :: s) :: ss := by
  cases h : splitSlash cs with
  | nil => exact absurd h (splitSlash_ne_nil cs)
  | cons s ss => exact ⟨s, ss, rfl, by rw [splitSlash, h]⟩

theorem splitSlash_slash (b : Bytes) : splitSlash ('/' :: b) = [] :: splitSlash b := by
  obtain ⟨s, ss, h, e⟩ := splitSlash_cons '/' b
  rw [e, h]; rfl

theorem splitSlash_append {a : Bytes} (h : '/' ∉ a) (b : Bytes) :
    splitSlash (a ++ '/' :: b) = a :: splitSlash b := by
  induction a with
  | nil => exact splitSlash_slash b
  | cons x xs ih =>
    rw [List.mem_cons, not_or] at h
    obtain ⟨s, ss, h1, e⟩ := splitSlash_cons x (xs ++ '/' :: b)
    rw [List.cons_append, e, if_neg (Ne.symm h.1)]
    cases (ih h.2).symm.trans h1; rfl

theorem splitSlash_noSlash {a : Bytes} (h : '/' ∉ a) : splitSlash a = [a] := by
  induction a with
  | nil => rfl
  | cons x xs ih =>
    rw [List.mem_cons, not_or] at h
    obtain ⟨s, ss, h1, e⟩ := splitSlash_cons x xs
    rw [e, if_neg (Ne.symm h.1)]
    cases (ih h.2).symm.trans h1; rfl

theorem joinSlash_cons_cons (c : Char) (s : Bytes) (ss : List Bytes) :
    joinSlash ((c :: s) :: ss) = c :: joinSlash (s :: ss) := by
  cases ss <;> rfl

theorem joinSlash_nil_cons (s : Bytes) (ss : List Bytes) :
    joinSlash ([] :: s :: ss) = '/' :: joinSlash (s :: ss) := rfl

theorem joinSlash_splitSlash (q : Bytes) : joinSlash (splitSlash q) = q := by
  induction q with
  | nil => rfl
  | cons c cs ih =>
    obtain ⟨s, ss, h, e⟩ := splitSlash_cons c cs
    rw [h] at ih
    rw [e]
    by_cases hc : c = '/'
    · rw [if_pos hc, joinSlash_nil_cons, ih, hc]
    · rw [if_neg hc, joinSlash_cons_cons, ih]

theorem all_joinSlash {P : Char → Bool} (hP : P '/' = true) :
    ∀ l : List Bytes, (joinSlash l).all P = l.all (·.all P)
  | [] => rfl
  | [s] => by simp [joinSlash]
  | s :: t :: ss => by simp [joinSlash, hP, all_joinSlash hP (t :: ss)]

theorem cleanStep_nil (r : Bool) (out : List Bytes) : cleanStep r out [] = out := by
  simp [cleanStep]

theorem cleanStep_regular (r : Bool) (out : List Bytes) {s : Bytes} (h1 : s ≠ []) (h2 : s ≠ ['.'])
    (h3 : s ≠ dotdot) : cleanStep r out s = s :: out := by
  simp [cleanStep, h1, h2, h3]

theorem foldl_segments (r : Bool) {segs : List Bytes}
    (h : ∀ s ∈ segs, s ≠ [] ∧ s ≠ ['.'] ∧ s ≠ dotdot) (acc : List Bytes) :
    segs.foldl (cleanStep r) acc = segs.reverse ++ acc := by
  induction segs generalizing acc with
  | nil => rfl
  | cons s ss ih =>
    obtain ⟨⟨h1, h2, h3⟩, hss⟩ := List.forall_mem_cons.1 h
    simp [cleanStep_regular r acc h1 h2 h3, ih hss]

theorem segments_regular {segs : List Bytes} (h : segs.all isSegment = true) :
    ∀ s ∈ segs, s ≠ [] ∧ s ≠ ['.'] ∧ s ≠ dotdot := fun s hs => by
  have := List.all_eq_true.1 h s hs
  simp only [isSegment, Bool.and_eq_true, decide_eq_true_eq] at this
  obtain ⟨⟨⟨h1, -⟩, h2⟩, h3⟩ := this
  exact ⟨h1, h2, h3⟩

theorem pathClean_clean {p : Bytes} (h : isCleanPath p = true) : pathClean p = p := by
  cases p with
  | nil => cases h
  | cons c q =>
    simp only [isCleanPath, isRelPath] at h
    rw [pathClean, if_neg (by simp)]
    by_cases hc : c = '/'
    · subst hc
      rw [if_pos rfl] at h
      simp [splitSlash_slash, cleanStep_nil, foldl_segments true (segments_regular h),
        joinSlash_splitSlash]
    · rw [if_neg hc] at h
      simp [hc, foldl_segments false (segments_regular h), joinSlash_splitSlash,
        splitSlash_ne_nil]

/-- the slash `path.Join` puts between host and path changes nothing -/
theorem pathClean_join {au rest : Bytes} (hne : au ≠ []) (hsl : '/' ∉ au)
    (hrest : ∀ x ∈ rest.head?, x = '/') :
    pathClean (au ++ '/' :: rest) = pathClean (au ++ rest) := by
  have hhead : ∀ t, (au ++ t).head? = au.head? := fun t => by
    cases au with
    | nil => exact absurd rfl hne
    | cons => rfl
  have hfold : ∀ r, (splitSlash (au ++ '/' :: rest)).foldl (cleanStep r) [] =
      (splitSlash (au ++ rest)).foldl (cleanStep r) [] := by
    intro r
    cases rest with
    | nil => simp [splitSlash_append hsl, splitSlash_noSlash hsl, splitSlash, cleanStep_nil]
    | cons x t =>
      cases hrest x rfl
      simp [splitSlash_append hsl, splitSlash_slash, cleanStep_nil]
  have hne1 : au ++ '/' :: rest ≠ [] := by simp
  have hne2 : au ++ rest ≠ [] := by simp [hne]
  unfold pathClean
  rw [if_neg hne1, if_neg hne2]
  simp only [hhead, hfold]

theorem cleanStep_nonempty (r : Bool) (s : Bytes) {out : List Bytes} (h : [] ∉ out) :
    [] ∉ cleanStep r out s := by
  unfold cleanStep
  by_cases h1 : s = [] ∨ s = ['.']
  · rwa [if_pos h1]
  · rw [if_neg h1, not_or] at *
    by_cases h2 : s = dotdot
    · rw [if_pos h2]
      match out, h with
      | [], _ => cases r <;> simp [dotdot]
      | top :: below, h =>
        rw [List.mem_cons, not_or] at h
        by_cases h3 : top = dotdot
        · simp [h3, dotdot, h.2]
        · simp [h3, h.2]
    · rw [if_neg h2]; simp [h, Ne.symm h1.1]

theorem joinSlash_ne_nil : ∀ {l : List Bytes}, l ≠ [] → [] ∉ l → joinSlash l ≠ []
  | [], hl, _ => absurd rfl hl
  | [s], _, h => by simpa [joinSlash, eq_comm] using h
  | s :: t :: ss, _, _ => by simp [joinSlash]

theorem pathClean_ne_nil (p : Bytes) : pathClean p ≠ [] := by
  have hout : ∀ r, [] ∉ ((splitSlash p).foldl (cleanStep r) []).reverse := fun r => by
    simpa using List.foldlRecOn (motive := fun out => [] ∉ out) (splitSlash p) (cleanStep r)
      List.not_mem_nil fun _ h s _ => cleanStep_nonempty r s h
  unfold pathClean
  split
  · simp
  · simp only
    split
    · simp
    · split
      · simp
      · exact joinSlash_ne_nil ‹_› (hout _)

theorem parseHost_noPort {h : Bytes} (hh : Plain h) (hb : '[' ∉ h) (hc : ':' ∉ h) :
    parseHost h = some h := by
  rw [parseHost, if_neg fun e => hb (List.mem_of_head? e), splitLast_none hc]
  exact unescape_host_plain hh

def unixB : Bytes := ['u', 'n', 'i', 'x']

theorem urlParse_unix {p : Bytes} (hp : isPathText p = true) :
    urlParse (escapePercent (unixB ++ ':' :: '/' :: '/' :: p)) =
      .ok unixB (p.takeWhile (· ≠ '/')) (p.dropWhile (· ≠ '/')) := by
  simp only [isPathText, Bool.and_eq_true, List.all_eq_true, Bool.or_eq_true,
    decide_eq_true_eq] at hp
  have hseg : ∀ c ∈ p.takeWhile (· ≠ '/'), segChar c = true := fun c hc =>
    (hp.2 c (List.takeWhile_subset _ hc)).resolve_right
      (by simpa using List.all_eq_true.1 List.all_takeWhile c hc)
  have hno : ∀ c, segChar c = false → c ∉ p.takeWhile (· ≠ '/') := fun c hc =>
    not_mem_of_forall hseg (by simp [hc])
  have hau : Plain (p.takeWhile (· ≠ '/')) := fun c hc => plain_of_seg (hseg c hc)
  have := urlParse_escaped (s := unixB) (by decide) hau.plainP
    (fun c hc => (hp.2 c (List.dropWhile_subset _ hc)).imp_left plain_of_seg) (cut_head '/' p)
  rwa [List.takeWhile_append_dropWhile, escapePercent_id (hno '%' (by decide)),
    parseHost_noPort hau (hno '[' (by decide)) (hno ':' (by decide))] at this

theorem pathJoin2_split {p : Bytes} (hne : p ≠ []) :
    pathJoin2 (p.takeWhile (· ≠ '/')) (p.dropWhile (· ≠ '/')) = pathClean p := by
  have hsplit : p.takeWhile (· ≠ '/') ++ p.dropWhile (· ≠ '/') = p :=
    List.takeWhile_append_dropWhile
  unfold pathJoin2
  by_cases ha : p.takeWhile (· ≠ '/') = []
  · have hb : p.dropWhile (· ≠ '/') = p := by rw [ha] at hsplit; exact hsplit
    rw [if_neg fun h => hne (hb.symm.trans h.2), if_pos ha, hb]
  · have hsl : '/' ∉ p.takeWhile (· ≠ '/') :=
      not_mem_of_forall (List.all_eq_true.1 List.all_takeWhile) (by simp)
    rw [if_neg (fun h => ha h.1), if_neg ha, pathClean_join ha hsl (cut_head '/' p), hsplit]

theorem cleanPath_text {p : Bytes} (h : isCleanPath p = true) : isPathText p = true := by
  have hrel : ∀ q, isRelPath q = true → q.all (fun c => segChar c || c = '/') = true := by
    intro q hq
    have := all_joinSlash (P := fun c => segChar c || c = '/') (by decide) (splitSlash q)
    rw [joinSlash_splitSlash] at this
    rw [this]
    refine List.all_eq_true.2 fun s hs => List.all_eq_true.2 fun c hc => ?_
    have := List.all_eq_true.1 hq s hs
    simp only [isSegment, Bool.and_eq_true, List.all_eq_true] at this
    obtain ⟨⟨⟨-, hseg⟩, -⟩, -⟩ := this
    simp [hseg c hc]
  cases p with
  | nil => cases h
  | cons c q =>
    rw [isCleanPath] at h
    split at h
    · simp [isPathText, hrel q h, ‹c = '/'›]
    · simpa [isPathText] using hrel _ h

end Gnet.Proofs.Url
