/-
  `Ledger s a` keeps the books of one descriptor `a` as linear constraints on how often it occurs in the
  lists of the state; a step changes each count by an amount read off the model, and `omega` shows that the
  books still balance. Freshness ("`nextFd` occurs nowhere yet") needs no line: it follows from the first one
  and `count a (range n) ≤ 1`.
-/
import Gnet.Model.Handover
import Gnet.Proofs.ListFacts
namespace Gnet.Proofs.Handover
open Gnet.Handover List

theorem count_flatten_set {α : Type} (f : α → List Nat) (a : Nat) (y : α) {L : List α} {l : Nat}
    {x : α} (h : L[l]? = some x) :
    count a ((L.set l y).map f).flatten + count a (f x) = count a (L.map f).flatten + count a (f y) := by
  have ⟨rest, h1, h2⟩ := perm_set h
  have e1 := (h1.map f).flatten.count_eq a
  have e2 := ((h2 y).map f).flatten.count_eq a
  simp only [map_cons, flatten_cons, count_append] at e1 e2
  omega

-- a disjunction, for `omega`
theorem count_filter_mem (a : Nat) (M E : List Nat) :
    count a E = 0 ∧ count a (M.filter (· ∈ E)) = 0 ∨
      0 < count a E ∧ count a (M.filter (· ∈ E)) = count a M := by
  by_cases h : a ∈ E
  · exact .inr ⟨count_pos_iff.2 h, count_filter (by simpa using h)⟩
  · exact .inl ⟨count_eq_zero.2 h, count_eq_zero.2 fun hm => h (by simpa using (mem_filter.1 hm).2)⟩

/-- the growth is the same term for every list `L` of the step, so `omega` treats the lists alike -/
theorem count_new (a n : Nat) (enr : Bool) (L : List Nat) :
    count a (bif enr then L ++ [n] else L) = count a L + (if enr then count a [n] else 0) ∧
    (if enr then count a [n] else 0) ≤ count a [n] := by
  cases enr <;> simp [count_append]

theorem count_range_le_one (a n : Nat) : count a (range n) ≤ 1 := nodup_iff_count.1 nodup_range a

/-- A created descriptor is in exactly one place; OnOpen ran only for registered or closed ones, never for a
failed one; a failed registration is closed and answered, an answer is a failure or follows an OnOpen; only
enrolled descriptors are answered, and each is answered or waiting. -/
abbrev Ledger (s : State) (a : Nat) : Prop :=
  let P := count a (pending s); let R := count a (registered s); let C := count a s.closed
  let N := count a (range s.nextFd); let O := count a (s.opened.map Prod.fst)
  let E := count a s.enrolled; let A := count a s.results; let F := count a s.failed
  P + R + C = N ∧ O + F ≤ R + C ∧ F ≤ C ∧ F ≤ A ∧ A ≤ F + O ∧ E ≤ N ∧ A ≤ E ∧ E ≤ A + P

structure Inv (s : State) : Prop where
  ledger : ∀ a, Ledger s a
  exited : ∀ (l : Nat) x, s.loops[l]? = some x → x.running = true ∨ pendingOf x = [] ∧ x.conns = []
  queued : ∀ l x, s.loops[l]? = some x → ∀ fd ∈ pendingOf x, (fd, l) ∈ s.assigned
  opened : ∀ p ∈ s.opened, p ∈ s.assigned
  assigned : s.assigned.map Prod.fst = range s.nextFd

-- loop `l` was `x` and becomes `y`; `enr`: the new descriptor comes from Register/Enroll
variable {s : State} {l : Nat} {x y : Loop}

theorem pendingOf_congr (h : y.queue = x.queue) : pendingOf y = pendingOf x := by
  rw [pendingOf, h]; rfl

theorem pendingOf_nil (h : x.queue = []) : pendingOf x = [] := by
  rw [pendingOf, h]; rfl

theorem pendingOf_register_cons {fd : Nat} (h : x.queue = .register fd :: y.queue) :
    pendingOf x = fd :: pendingOf y := by
  rw [pendingOf, h]; rfl

theorem pendingOf_sentinel_cons (h : x.queue = .sentinel :: y.queue) : pendingOf x = pendingOf y := by
  rw [pendingOf, h]; rfl

theorem pendingOf_append_register {fd : Nat} (h : y.queue = x.queue ++ [.register fd]) :
    pendingOf y = pendingOf x ++ [fd] := by
  rw [pendingOf, h, filterMap_append]; rfl

theorem pendingOf_append_sentinel (h : y.queue = x.queue ++ [.sentinel]) : pendingOf y = pendingOf x := by
  rw [pendingOf, h, filterMap_append]; exact append_nil _

theorem pendingOf_reorder {fd : Nat} (hm : .register fd ∈ x.queue)
    (h : y.queue = .register fd :: x.queue.erase (.register fd)) : (pendingOf y).Perm (pendingOf x) := by
  rw [pendingOf, h]; exact (perm_cons_erase hm).symm.filterMap _

theorem Inv.exchange (h : Inv s) (hx : s.loops[l]? = some x) (y : Loop) (a : Nat) :
    Ledger s a ∧
    count a (pending (setLoop s l y)) + count a (pendingOf x) =
      count a (pending s) + count a (pendingOf y) ∧
    count a (registered (setLoop s l y)) + count a x.conns =
      count a (registered s) + count a y.conns :=
  ⟨h.ledger a, count_flatten_set pendingOf a y hx, count_flatten_set Loop.conns a y hx⟩

theorem Inv.queue (h : Inv s) (enr : Bool) (hx : s.loops[l]? = some x) (hr : y.running = true)
    (hp : pendingOf y = pendingOf x ++ [s.nextFd]) (hc : y.conns = x.conns) :
    Inv { setLoop s l y with
          nextFd := s.nextFd + 1, assigned := s.assigned ++ [(s.nextFd, l)],
          enrolled := bif enr then s.enrolled ++ [s.nextFd] else s.enrolled } where
  ledger a := by
    have := h.exchange hx y a
    have he := count_new a s.nextFd enr s.enrolled
    simp only [Ledger, pending, registered, setLoop, hp, hc, count_append, range_succ] at this ⊢
    omega
  exited := forall_getElem?_set h.exited (.inl hr)
  queued := forall_getElem?_set (fun i z hz fd hfd => mem_append_left _ (h.queued i z hz fd hfd)) <|
    hp ▸ forall_mem_append.2 ⟨fun fd hfd => mem_append_left _ (h.queued l x hx fd hfd),
      forall_mem_singleton.2 (mem_append_right _ (mem_singleton_self _))⟩
  opened p hp := mem_append_left _ (h.opened p hp)
  assigned := by simp [h.assigned, range_succ]

theorem Inv.abort (h : Inv s) (l : Nat) (enr : Bool) :
    Inv { s with nextFd := s.nextFd + 1, assigned := s.assigned ++ [(s.nextFd, l)],
                 closed := s.closed ++ [s.nextFd],
                 enrolled := bif enr then s.enrolled ++ [s.nextFd] else s.enrolled,
                 results := bif enr then s.results ++ [s.nextFd] else s.results,
                 failed := bif enr then s.failed ++ [s.nextFd] else s.failed } where
  ledger a := by
    have := h.ledger a
    have hE := count_new a s.nextFd enr s.enrolled
    have hA := count_new a s.nextFd enr s.results
    have hF := count_new a s.nextFd enr s.failed
    simp only [Ledger, pending, registered, count_append, range_succ] at this ⊢
    omega
  exited := h.exited
  queued i z hz fd hfd := mem_append_left _ (h.queued i z hz fd hfd)
  opened p hp := mem_append_left _ (h.opened p hp)
  assigned := by simp [h.assigned, range_succ]

theorem Inv.register {fd : Nat} (h : Inv s) (hx : s.loops[l]? = some x) (hr : y.running = true)
    (hp : pendingOf x = fd :: pendingOf y) (hc : y.conns = x.conns ++ [fd]) :
    Inv { setLoop s l y with
          opened := s.opened ++ [(fd, l)],
          results := if fd ∈ s.enrolled then s.results ++ [fd] else s.results } where
  ledger a := by
    have := h.exchange hx y a
    -- `fd` waits, so by the first line and `N ≤ 1` it is nowhere else and has no answer yet: that keeps
    -- `A ≤ E`
    have hN := count_range_le_one a s.nextFd
    have hM := count_filter_mem a [fd] s.enrolled
    -- as in `exitLoop`: the enrolled ones that leave the queue are answered
    have hA : (if fd ∈ s.enrolled then s.results ++ [fd] else s.results) =
        s.results ++ [fd].filter (· ∈ s.enrolled) := by
      split <;> simp [*]
    simp only [Ledger, pending, registered, setLoop, hp, hc, hA, count_append, count_cons, map_append,
      map_cons, map_nil, count_nil, Nat.zero_add] at this hM ⊢
    omega
  exited := forall_getElem?_set h.exited (.inl hr)
  queued := forall_getElem?_set h.queued fun fd' hfd => h.queued l x hx fd' (hp ▸ mem_cons_of_mem _ hfd)
  opened := forall_mem_append.2
    ⟨h.opened, forall_mem_singleton.2 (h.queued l x hx fd (hp ▸ mem_cons_self))⟩
  assigned := h.assigned

/-- `exitLoop` looks at `pendingOf y` and `y.conns` only: `y` is `x`, or `x` without the sentinel at the head
of its queue -/
theorem Inv.exit (h : Inv s) (hx : s.loops[l]? = some x) (hp : pendingOf y = pendingOf x)
    (hc : y.conns = x.conns) :
    Inv (exitLoop s l y) where
  ledger a := by
    have := h.exchange hx ⟨false, [], []⟩ a
    -- as in `register`, for every descriptor that waits
    have hN := count_range_le_one a s.nextFd
    have hM := count_filter_mem a (pendingOf x) s.enrolled
    have h0 : pendingOf ⟨false, [], []⟩ = [] := pendingOf_nil rfl
    simp only [Ledger, pending, registered, exitLoop, setLoop, hp, hc, h0, count_append, count_nil]
      at this ⊢
    omega
  exited := forall_getElem?_set h.exited (.inr ⟨rfl, rfl⟩)
  queued := forall_getElem?_set h.queued fun _ h => nomatch h
  opened := h.opened
  assigned := h.assigned

theorem Inv.peerClose {fd : Nat} (h : Inv s) (hx : s.loops[l]? = some x) (hr : y.running = true)
    (hp : pendingOf y = pendingOf x) (hfd : fd ∈ x.conns) (hc : y.conns = x.conns.erase fd) :
    Inv { setLoop s l y with closed := s.closed ++ [fd] } where
  ledger a := by
    have := h.exchange hx y a
    have hE := (perm_cons_erase hfd).count_eq a
    simp only [Ledger, pending, registered, setLoop, hp, hc, count_append, count_cons, count_nil,
      Nat.zero_add] at this hE ⊢
    omega
  exited := forall_getElem?_set h.exited (.inl hr)
  queued := forall_getElem?_set h.queued (hp ▸ h.queued l x hx)
  opened := h.opened
  assigned := h.assigned

theorem Inv.reorder (h : Inv s) (hx : s.loops[l]? = some x) (hr : y.running = x.running)
    (hp : (pendingOf y).Perm (pendingOf x)) (hc : y.conns = x.conns) : Inv (setLoop s l y) where
  ledger a := by
    have := h.exchange hx y a
    have hE := hp.count_eq a
    simp only [Ledger, pending, registered, setLoop, hc] at this ⊢
    omega
  exited := forall_getElem?_set h.exited <|
    hr ▸ hc ▸ (h.exited l x hx).imp_right fun h' => ⟨(h'.1 ▸ hp).eq_nil, h'.2⟩
  queued := forall_getElem?_set h.queued fun fd hfd => h.queued l x hx fd (hp.mem_iff.1 hfd)
  opened := h.opened
  assigned := h.assigned

theorem Inv.mapLoops {g : Loop → Loop} (h : Inv s) (hr : ∀ x, (g x).running = x.running)
    (hp : ∀ x, pendingOf (g x) = pendingOf x) (hc : ∀ x, (g x).conns = x.conns) :
    Inv { s with sentinelsPosted := true, loops := s.loops.map g } := by
  have hpg : pendingOf ∘ g = pendingOf := funext hp
  have hcg : (·.conns) ∘ g = (·.conns) := funext hc
  have hl {i z} (hz : (s.loops.map g)[i]? = some z) : ∃ x, s.loops[i]? = some x ∧ g x = z :=
    Option.map_eq_some_iff.1 (getElem?_map ▸ hz)
  refine ⟨fun a => ?_, fun i z hz => ?_, fun i z hz => ?_, h.opened, h.assigned⟩
  · have := h.ledger a
    simp only [Ledger, pending, registered, map_map, hpg, hcg] at this ⊢
    exact this
  · obtain ⟨x, hx, rfl⟩ := hl hz
    rw [hr, hp, hc]
    exact h.exited i x hx
  · obtain ⟨x, hx, rfl⟩ := hl hz
    rw [hp]
    exact h.queued i x hx

-- The `match` is the one `step` makes; the predicate is `Inv` and not a variable as in `of_ite`, so that
-- the arms in `inv_step` elaborate against a known goal.
theorem Inv.onLoop {f : Loop → State} (h : Inv s) (hf : ∀ x, s.loops[l]? = some x → Inv (f x)) :
    Inv (match s.loops[l]? with | some x => f x | none => s) := by
  split
  · exact hf _ ‹_›
  · exact h

theorem inv_step (h : Inv s) : ∀ a, Inv (step s a)
  | .accept l => h.onLoop fun _ hx => of_ite h fun _ => by
    split
    next hr => exact h.queue false hx hr (pendingOf_append_register rfl) rfl
    · exact h.abort l false
  | .enroll l => h.onLoop fun _ hx => of_ite h fun _ => by
    split
    next hr => exact h.queue true hx hr (pendingOf_append_register rfl) rfl
    · exact h.abort l true
  | .exec l => h.onLoop fun _ hx => of_ite h fun hr => by
    split
    next fd q hq => exact h.register hx hr (pendingOf_register_cons hq) rfl
    next q hq => exact h.exit hx (pendingOf_sentinel_cons hq).symm rfl
    · exact h
  | .action l => h.onLoop fun _ hx => of_ite h fun _ => h.exit hx rfl rfl
  | .peerClose l fd => h.onLoop fun _ hx => of_ite h fun hg =>
    h.peerClose hx hg.1 (pendingOf_congr rfl) hg.2 rfl
  | .reorder l fd => h.onLoop fun _ hx => of_ite h fun hm =>
    h.reorder hx rfl (pendingOf_reorder hm rfl) rfl
  | .postSentinels => of_ite h fun _ =>
    h.mapLoops (fun _ => rfl) (fun _ => pendingOf_append_sentinel rfl) fun _ => rfl
  | .requestStop => { h with }
  | .acceptorExit => of_ite h fun _ => { h with }
  | .setFlag => of_ite h fun _ => { h with }

theorem inv_init (n : Nat) : Inv (init n) where
  ledger a := by simp [Ledger, init, pending, registered, pendingOf]
  exited l x hx := .inl (eq_of_mem_replicate (mem_of_getElem? hx) ▸ rfl)
  queued l x hx := eq_of_mem_replicate (mem_of_getElem? hx) ▸ fun _ h => nomatch h
  opened _ h := nomatch h
  assigned := rfl

theorem inv_run (h : Inv s) (steps : List Step) : Inv (run s steps) := by
  induction steps generalizing s with
  | nil => exact h
  | cons a rest ih => exact ih (inv_step h a)

theorem inv_reachable (h : Reachable s) : Inv s := by
  obtain ⟨n, steps, rfl⟩ := h
  exact inv_run (inv_init n) steps

theorem books (h : Reachable s) (a : Nat) : Ledger s a ∧ count a (range s.nextFd) ≤ 1 :=
  ⟨(inv_reachable h).ledger a, count_range_le_one a _⟩

theorem partition (s : State) (h : Reachable s) :
    (pending s ++ registered s ++ s.closed).Perm (created s) :=
  perm_iff_count.2 fun a => by simp only [count_append]; exact (books h a).1.1

theorem opened_assigned (s : State) (h : Reachable s) :
    (∀ p ∈ s.opened, p ∈ s.assigned) ∧ (s.opened.map Prod.fst).Nodup ∧
      s.assigned.map Prod.fst = created s := by
  refine ⟨(inv_reachable h).opened, nodup_iff_count.2 fun a => ?_, (inv_reachable h).assigned⟩
  have := books h a
  omega

theorem results_at_most_once (s : State) (h : Reachable s) :
    s.results.Nodup ∧ (∀ fd ∈ s.results, fd ∈ s.enrolled) ∧ s.enrolled.Nodup := by
  simp only [nodup_iff_count, ← count_pos_iff]
  refine ⟨fun a => ?_, fun a => ?_, fun a => ?_⟩ <;>
  · have := books h a
    omega

theorem unanswered_are_pending (s : State) (h : Reachable s) :
    ∀ fd, fd ∈ unanswered s ↔ (fd ∈ s.enrolled ∧ fd ∈ pending s) := by
  intro a
  have := books h a
  simp only [unanswered, mem_filter, decide_eq_true_eq]
  simp only [← count_pos_iff]
  omega

theorem failed_results (s : State) (h : Reachable s) :
    (∀ fd ∈ s.failed, fd ∈ s.results ∧ fd ∈ s.closed ∧ fd ∉ s.opened.map Prod.fst) ∧
    (∀ fd ∈ s.results, fd ∉ s.failed → fd ∈ s.opened.map Prod.fst) := by
  simp only [← count_pos_iff]
  refine ⟨fun a => ?_, fun a => ?_⟩ <;>
  · have := books h a
    omega

/-- `x.queue = []` is false: `postSentinels` appends the sentinel to the queues of exited loops too -/
theorem pending_only_on_running (s : State) (h : Reachable s) (l : Nat) (x : Loop)
    (hx : s.loops[l]? = some x) (hr : x.running = false) : pendingOf x = [] ∧ x.conns = [] :=
  ((inv_reachable h).exited l x hx).resolve_left (by simp [hr])

theorem pending_only_on_running_false :
    ¬ ∀ (s : State), Reachable s → ∀ (l : Nat) (x : Loop), s.loops[l]? = some x →
      x.running = false → x.queue = [] ∧ x.conns = [] := by
  intro hall
  have := hall (run (init 1) [.action 0, .postSentinels]) ⟨1, _, rfl⟩ 0
    { running := false, queue := [Task.sentinel], conns := [] } (by decide) rfl
  exact absurd this.1 (by decide)

theorem Inv.final (h : Inv s) (hf : Final s = true) : pending s = [] ∧ registered s = [] := by
  simp only [Final, Bool.and_eq_true, all_eq_true, Bool.not_eq_true'] at hf
  have (x) (hx : x ∈ s.loops) : pendingOf x = [] ∧ x.conns = [] :=
    have ⟨l, hl⟩ := getElem?_of_mem hx
    (h.exited l x hl).resolve_left (by simp [hf.2 x hx])
  simp only [pending, registered, flatten_eq_nil_iff, mem_map]
  exact ⟨fun _ ⟨x, hx, e⟩ => e ▸ (this x hx).1, fun _ ⟨x, hx, e⟩ => e ▸ (this x hx).2⟩

theorem final_no_leak (s : State) (h : Reachable s) (hf : Final s = true) :
    unclosed s = [] ∧ s.closed.Perm (created s) := by
  have hp := partition s h
  rw [((inv_reachable h).final hf).1, ((inv_reachable h).final hf).2] at hp
  exact ⟨filter_eq_nil_iff.2 fun a ha => by simpa using hp.mem_iff.2 ha, hp⟩

theorem final_all_answered (s : State) (h : Reachable s) (hf : Final s = true) : unanswered s = [] :=
  eq_nil_iff_forall_not_mem.2 fun fd hfd =>
    nomatch ((inv_reachable h).final hf).1 ▸ ((unanswered_are_pending s h fd).1 hfd).2

theorem no_enrolment_after_flag (s : State) (hs : s.inShutdown = true) (l : Nat) :
    step s (.enroll l) = s := by
  simp only [step, hs]
  split <;> rfl

theorem step_exec_register {fd : Nat} {q : List Task} (hx : s.loops[l]? = some x) (hr : x.running = true)
    (hq : x.queue = .register fd :: q) :
    step s (.exec l) = { setLoop s l { x with queue := q, conns := x.conns ++ [fd] } with
      opened := s.opened ++ [(fd, l)],
      results := if fd ∈ s.enrolled then s.results ++ [fd] else s.results } := by
  simp only [step, hx, hr, hq, if_true]

theorem running_loop_serves (s : State) (l : Nat) (x : Loop) (hx : s.loops[l]? = some x)
    (hr : x.running = true) (pre rest : List Task) (fd : Nat)
    (hq : x.queue = pre ++ Task.register fd :: rest) (hns : Task.sentinel ∉ pre) :
    (fd, l) ∈ (run s (List.replicate (pre.length + 1) (Step.exec l))).opened := by
  induction pre generalizing s x with
  | nil =>
    rw [length_nil, replicate_succ, run, step_exec_register hx hr hq]
    exact mem_append_right _ (mem_singleton_self _)
  | cons t pre ih =>
    cases t with
    | sentinel => exact absurd mem_cons_self hns
    | register fd' =>
      have hl := lt_of_getElem? hx
      rw [length_cons, replicate_succ, run, step_exec_register hx hr hq]
      exact ih _ { x with queue := pre ++ .register fd :: rest, conns := x.conns ++ [fd'] }
        (by simp [setLoop, hl, hr]) hr rfl fun hm => hns (mem_cons_of_mem _ hm)

end Gnet.Proofs.Handover
