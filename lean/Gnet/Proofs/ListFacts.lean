/-
  Facts about lists that core does not have and that several of the models' invariants need.
-/
namespace Gnet.Proofs

theorem lt_of_getElem? {α} {c : List α} {i : Nat} {x : α} (hi : c[i]? = some x) : i < c.length :=
  of_getElem?_eq_some (c := c) hi

theorem nodup_idx {α} {c : List α} (hnd : c.Nodup) {i j : Nat} {x : α}
    (hi : c[i]? = some x) (hj : c[j]? = some x) : i = j :=
  (List.getElem?_inj (lt_of_getElem? hi) hnd).1 (hi.trans hj.symm)

theorem getElem?_append_of {α} {c l : List α} {i : Nat} {x : α} (hi : c[i]? = some x) :
    (c ++ l)[i]? = some x := by
  rw [List.getElem?_append_left (lt_of_getElem? hi)]; exact hi

theorem countP_set_add {α} (p : α → Bool) {l : List α} {i : Nat} {a : α} (b : α) (h : l[i]? = some a) :
    (l.set i b).countP p + (if p a then 1 else 0) = l.countP p + (if p b then 1 else 0) := by
  obtain ⟨hlt, rfl⟩ := List.getElem?_eq_some_iff.1 h
  rw [List.countP_set hlt]
  by_cases hp : p l[i] = true
  · have := List.countP_pos_iff.2 ⟨_, List.getElem_mem hlt, hp⟩
    simp only [hp, if_true]; omega
  · simp [hp]

theorem getElem?_set_cases {α} {l : List α} {i j : Nat} {a u : α}
    (h : (l.set i a)[j]? = some u) : (j = i ∧ u = a) ∨ (j ≠ i ∧ l[j]? = some u) := by
  by_cases hij : i = j
  · subst hij
    rw [List.getElem?_set_self (by simpa using lt_of_getElem? h)] at h
    exact .inl ⟨rfl, (Option.some.inj h).symm⟩
  · rw [List.getElem?_set_ne hij] at h
    exact .inr ⟨fun e => hij e.symm, h⟩

theorem set_eq_self {α} {l : List α} {i : Nat} {a : α} (h : l[i]? = some a) : l.set i a = l := by
  obtain ⟨hlt, rfl⟩ := List.getElem?_eq_some_iff.1 h
  exact List.set_getElem_self hlt

theorem getD_of_getElem? {α} {l : List α} {i : Nat} {a d : α} (h : l[i]? = some a) : l.getD i d = a := by
  simp [List.getD_eq_getElem?_getD, h]

theorem getElem?_getD_of_lt {α} {l : List α} {i : Nat} {d : α} (h : i < l.length) :
    l[i]? = some (l.getD i d) := by
  simp [List.getD_eq_getElem?_getD, List.getElem?_eq_getElem h]

theorem getD_of_ge {α} {l : List α} {i : Nat} {d : α} (h : l.length ≤ i) : l.getD i d = d := by
  simp [List.getD_eq_getElem?_getD, List.getElem?_eq_none_iff.2 h]

theorem getD_set_self {α} {l : List α} {i : Nat} {a d : α} (h : i < l.length) :
    (l.set i a).getD i d = a := by
  simp [List.getD_eq_getElem?_getD, h]

theorem getD_set_ne {α} {l : List α} {i j : Nat} {a d : α} (h : j ≠ i) :
    (l.set i a).getD j d = l.getD j d := by
  simp [List.getD_eq_getElem?_getD, Ne.symm h]

theorem getD_set {α} {l : List α} {i j : Nat} {v d : α} (hi : i < l.length) :
    (l.set i v).getD j d = if i = j then v else l.getD j d := by
  split
  · next h => exact h ▸ getD_set_self hi
  · next h => exact getD_set_ne (Ne.symm h)

theorem forall_mem_set {α} {P : α → Prop} {ls : List α} {l : Nat} {y : α}
    (h : ∀ x ∈ ls, P x) (hy : P y) : ∀ x ∈ ls.set l y, P x :=
  fun x hx => (List.mem_or_eq_of_mem_set hx).elim (h x) (· ▸ hy)

theorem forall_getElem?_set {α} {P : Nat → α → Prop} {L : List α} {l : Nat} {y : α}
    (h : ∀ i x, L[i]? = some x → P i x) (hy : P l y) : ∀ i x, (L.set l y)[i]? = some x → P i x :=
  fun i x hx =>
    (getElem?_set_cases hx).elim (fun ⟨e1, e2⟩ => e1 ▸ e2 ▸ hy) fun ⟨_, h'⟩ => h i x h'

theorem exists_mem_set_self {α} {Q : α → Prop} {l : List α} {p : Nat} {y z : α}
    (hp : l[p]? = some y) (hz : Q z) :
    ∃ x ∈ l.set p z, Q x :=
  ⟨z, List.mem_set (lt_of_getElem? hp) z, hz⟩

theorem exists_mem_set_of_not {α} {Q : α → Prop} {l : List α} {p : Nat} {y z : α} (hp : l[p]? = some y)
    (hy : ¬ Q y) : (∃ x ∈ l, Q x) → ∃ x ∈ l.set p z, Q x := by
  rintro ⟨x, hx, hQ⟩
  obtain ⟨q, hq⟩ := List.mem_iff_getElem?.1 hx
  have hpq : p ≠ q := fun e => hy (Option.some.inj ((e ▸ hq).symm.trans hp) ▸ hQ)
  exact ⟨x, List.mem_of_getElem? ((List.getElem?_set_ne hpq).trans hq), hQ⟩

theorem perm_set {α} : ∀ {ls : List α} {l : Nat} {x : α}, ls[l]? = some x →
    ∃ rest, ls.Perm (x :: rest) ∧ ∀ y, (ls.set l y).Perm (y :: rest)
  | _ :: t, 0, _, h => ⟨t, Option.some.inj h ▸ .refl _, fun _ => .refl _⟩
  | a :: t, l + 1, x, h =>
    have ⟨rest, h1, h2⟩ := perm_set (ls := t) (l := l) (x := x) h
    ⟨a :: rest, (h1.cons a).trans (.swap ..), fun y => ((h2 y).cons a).trans (.swap ..)⟩

theorem pairwise_erase {α} [BEq α] [LawfulBEq α] {R : α → α → Prop} (hs : ∀ {x y}, R x y → R y x)
    {l : List α} (h : l.Pairwise R) {a b : α} (ha : a ∈ l) (hb : b ∈ l.erase a) : R a b :=
  List.rel_of_pairwise_cons ((List.Perm.pairwise_iff hs (List.perm_cons_erase ha)).1 h) hb

theorem find?_key {α β} [DecidableEq β] (f : α → β) {l : List α} (hn : (l.map f).Nodup)
    {a : α} (ha : a ∈ l) : l.find? (f · == f a) = some a := by
  induction l with
  | nil => cases ha
  | cons p t ih =>
    rw [List.map_cons, List.nodup_cons] at hn
    rcases List.mem_cons.1 ha with rfl | ha
    · simp
    · have hne : f p ≠ f a := fun h => hn.1 (h ▸ List.mem_map_of_mem ha)
      rw [List.find?_cons_of_neg (by simpa using hne)]
      exact ih hn.2 ha

theorem perm_snoc_append {α} {l m : List α} {t : α} : (l ++ [t] ++ m).Perm (t :: (l ++ m)) := by
  rw [List.append_assoc]; exact List.perm_middle

theorem perm_append_snoc {α} {l m : List α} {t : α} : (l ++ (m ++ [t])).Perm (t :: (l ++ m)) := by
  rw [← List.append_assoc]; exact List.perm_append_singleton t (l ++ m)

theorem foldl_congr_mem {α β} {f g : β → α → β} {l : List α}
    (h : ∀ b, ∀ a ∈ l, f b a = g b a) (b : β) :
    l.foldl f b = l.foldl g b := by
  induction l generalizing b with
  | nil => rfl
  | cons a l ih =>
    rw [List.foldl_cons, List.foldl_cons, h b a (by simp), ih fun b x hx => h b x (by simp [hx])]

theorem of_ite {σ} {P : σ → Prop} {c : Prop} [Decidable c] {t e : σ} (he : P e) (ht : c → P t) :
    P (if c then t else e) := by
  split
  · exact ht ‹c›
  · exact he

end Gnet.Proofs
