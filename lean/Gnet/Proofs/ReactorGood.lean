/-
  The invariant carried through the symbolic execution of the reactor acceptor. `A` switches the inbound
  accounting on, `B` the outbound accounting: C01 assumes `InvIn` only and C02 `InvOut` only, and one
  induction serves both. One connection `c` (the one the current work is about) may be in a special
  condition `Ψ`; every other connection is at one level `ko`.
-/
import Gnet.Proofs.ReactorWp
namespace Gnet.Reactor
open Gnet.Proofs.ReactorL

def eqIn (x : Conn) : Prop := x.consumed ++ x.inbound ++ x.buffer = x.delivered
def eqOut (x : Conn) : Prop := x.toKernel ++ x.outbound = x.accepted

/-- level 0: anything (inside `close`, or the transient UDP connection);
    level 1: registered and accounted, `buffer` may hold the rest of the latest read (inside OnTraffic, or
             after OnTraffic returned Shutdown);
    level 2: at rest: additionally `buffer = []` -/
def Lv (A B : Prop) (k : Nat) (x : Conn) : Prop :=
  k = 0 ∨ (x.opened = true → x.registered = true ∧ (k = 2 → x.buffer = []) ∧ (A → eqIn x) ∧ (B → eqOut x))

/-- while `data` (already in `accepted`) is still to be written or buffered -/
def Snd (A B : Prop) (k : Nat) (data : List Nat) (x : Conn) : Prop :=
  k = 0 ∨ (x.opened = true → x.registered = true ∧ (k = 2 → x.buffer = []) ∧ (A → eqIn x) ∧
    (B → x.toKernel ++ x.outbound ++ data = x.accepted))

/-- ... and the outbound buffer is known to be empty (the direct-write loops) -/
def SndE (A B : Prop) (k : Nat) (data : List Nat) (x : Conn) : Prop :=
  k = 0 ∨ (x.opened = true → x.registered = true ∧ (k = 2 → x.buffer = []) ∧ (A → eqIn x) ∧
    (B → x.outbound = [] ∧ x.toKernel ++ data = x.accepted))

structure Good (A B : Prop) (ko : Nat) (s : RState) (c : String) (Ψ : Conn → Prop) : Prop where
  nodup : NamesNodup s
  here : ∀ p ∈ s.conns, p.1 = c → Ψ p.2
  others : ∀ p ∈ s.conns, p.1 ≠ c → Lv A B ko p.2

variable {A B : Prop} {ko : Nat}

theorem Good.mono {s : RState} {c : String} {Ψ Ψ' : Conn → Prop} (hG : Good A B ko s c Ψ)
    (h : ∀ x, Ψ x → Ψ' x) : Good A B ko s c Ψ' :=
  ⟨hG.nodup, fun p hp hc => h _ (hG.here p hp hc), hG.others⟩

theorem Good.all {s : RState} {c : String} (hG : Good A B ko s c (Lv A B ko)) :
    ∀ p ∈ s.conns, Lv A B ko p.2 :=
  fun p hp => if hc : p.1 = c then hG.here p hp hc else hG.others p hp hc

theorem Good.of_all {s : RState} {c : String} (hn : NamesNodup s) (h : ∀ p ∈ s.conns, Lv A B ko p.2) :
    Good A B ko s c (Lv A B ko) :=
  ⟨hn, fun p hp _ => h p hp, fun p hp _ => h p hp⟩

/-- `""` is written where no connection is distinguished (`Specs.closeConns`, between the items of a round) -/
theorem Good.retarget {s : RState} {c : String} (c' : String) (hG : Good A B ko s c (Lv A B ko)) :
    Good A B ko s c' (Lv A B ko) := .of_all hG.nodup hG.all

theorem Good.lookup {s : RState} {c : String} {Ψ : Conn → Prop} {x : Conn}
    (hG : Good A B ko s c Ψ) (hx : lookupL s.conns c = some x) : Ψ x ∧ Good A B ko s c (fun y => y = x) :=
  ⟨hG.here _ (lookup_mem hx) rfl, hG.nodup,
    fun _ hp hc => Option.some.inj ((hc ▸ mem_lookup hG.nodup hp).symm.trans hx), hG.others⟩

theorem Good.upd {s : RState} {c : String} {Ψ Ψ' : Conn → Prop} {x : Conn} (g : Conn → Conn)
    (hG : Good A B ko s c Ψ) (hx : lookupL s.conns c = some x) (hg : Ψ x → Ψ' (g x)) :
    Good A B ko { s with conns := updL s.conns c (g x) } c Ψ' :=
  ⟨ND_upd hG.nodup,
    fun _ hp hc => (mem_updL hp).elim (fun e => e ▸ hg (hG.lookup hx).1) fun h => absurd hc h.1,
    fun p hp hc => (mem_updL hp).elim (fun e => absurd (e ▸ rfl) hc) fun h => hG.others p h.2 hc⟩

theorem Good.snoc {s : RState} {cs : List (String × Conn)} {n : String} {y : Conn} {Ψ : Conn → Prop}
    (hs : s.conns = cs ++ [(n, y)]) (hn : ND cs) (hall : ∀ p ∈ cs, Lv A B ko p.2)
    (hfresh : cs.any (·.1 == n) = false) (hΨ : Ψ y) : Good A B ko s n Ψ := by
  have hne : ∀ p ∈ cs, p.1 ≠ n := by simpa using hfresh
  have hmem : ∀ p ∈ s.conns, p ∈ cs ∨ p = (n, y) := fun p hp => by simpa [hs] using hp
  exact ⟨by unfold NamesNodup; rw [hs]; exact ND_append hn hfresh,
    fun p hp hc => (hmem p hp).elim (fun h => absurd hc (hne p h)) fun e => e ▸ hΨ,
    fun p hp hc => (hmem p hp).elim (hall p) fun e => absurd (e ▸ rfl) hc⟩

theorem Good.accept {s : RState} {l nfd : String} {Ψ : Conn → Prop} (n : Nat)
    (hG : Good A B ko s l (Lv A B ko)) (hfresh : ¬ (s.conns.any (·.1 == nfd)) = true) (hΨ : Ψ {}) :
    Good A B ko { s with conns := s.conns ++ [(nfd, {})], nconn := n } nfd Ψ :=
  .snoc rfl hG.nodup hG.all (Bool.eq_false_iff.mpr hfresh) hΨ

/-- `readUDP`: the transient connection named after the listener replaces whatever had that name -/
theorem Good.udp {s : RState} {l : String} (y : Conn) (hG : Good A B ko s l (Lv A B ko)) :
    Good A B ko { s with conns := (s.conns.filter (·.1 != l)) ++ [(l, y)] } l (Lv A B 0) :=
  .snoc rfl (ND_filter _ hG.nodup) (fun p hp => hG.all p (List.mem_filter.mp hp).1) (by simp) (Or.inl rfl)

theorem Good.udp_done {s : RState} {l : String} {Ψ : Conn → Prop} (hG : Good A B ko s l Ψ) :
    Good A B ko { s with conns := s.conns.filter (·.1 != l) } l (Lv A B ko) :=
  ⟨ND_filter _ hG.nodup, fun p hp hc => by simp [hc] at hp,
    fun p hp hc => hG.others p (List.mem_filter.mp hp).1 hc⟩

theorem Good.unpin {s : RState} {c : String} {Ψ : Conn → Prop} {x : Conn}
    (hG : Good A B ko s c (fun y => y = x)) (hx : Ψ x) : Good A B ko s c Ψ :=
  hG.mono (by rintro _ rfl; exact hx)

theorem Good.congr {s s1 : RState} {c : String} {Ψ : Conn → Prop} (hG : Good A B ko s c Ψ)
    (h : s1.conns = s.conns) : Good A B ko s1 c Ψ :=
  ⟨by unfold NamesNodup; rw [h]; exact hG.nodup, by rw [h]; exact hG.here, by rw [h]; exact hG.others⟩

section rules
variable {β : Type} {s : RState} {c : String} {Ψ : Conn → Prop} {Q : β → RState → Prop}

theorem Good.wp_pop {f : Tok → M β} (hG : Good A B ko s c Ψ)
    (H : ∀ t s1, t.sane = true → Good A B ko s1 c Ψ → wp (f t) Q s1) : wp (pop >>= f) Q s :=
  wp_pop_bind fun t _ _ hs => H t _ hs (hG.congr rfl)

theorem Good.wp_enter {fn c' : String} {f : String → M β} (hG : Good A B ko s c Ψ)
    (H : ∀ a s1, Good A B ko s1 c Ψ → wp (f a) Q s1) : wp (expectEnter fn c' >>= f) Q s :=
  wp_enter_bind fun a _ _ => H a _ (hG.congr rfl)

theorem Good.wp_checkHop {op : String} {n : Int} {e : String} {d : List Nat} {f : Unit → M β}
    (hG : Good A B ko s c Ψ) (H : ∀ s1, Good A B ko s1 c Ψ → wp (f ()) Q s1) :
    wp (checkHop op n e d >>= f) Q s :=
  wp_checkHop_bind fun _ _ => H _ (hG.congr rfl)

theorem Good.wp_popRes {op : String} {f : Int × String × List Nat → M β} (hG : Good A B ko s c Ψ)
    (H : ∀ a s1, Good A B ko s1 c Ψ → wp (f a) Q s1) : wp (popRes op >>= f) Q s :=
  wp_popRes_bind fun n e d _ _ => H (n, e, d) _ (hG.congr rfl)

theorem Good.wp_noteSys {c' : String} {f : Unit → M β} (hG : Good A B ko s c Ψ)
    (H : ∀ s1, Good A B ko s1 c Ψ → wp (f ()) Q s1) : wp (noteSys c' >>= f) Q s :=
  wp_noteSys_bind fun _ _ => H _ (hG.congr rfl)

theorem Good.wp_sys {c' : String} {f : Tok → M β} (hG : Good A B ko s c Ψ)
    (H : ∀ t s1, t.sane = true → Good A B ko s1 c Ψ → wp (f t) Q s1) :
    wp (noteSys c' >>= fun _ => pop >>= f) Q s :=
  hG.wp_noteSys fun _ hG => hG.wp_pop H

theorem Good.wp_modify {g : RState → RState} {f : PUnit → M β} (hG : Good A B ko s c Ψ)
    (hg : (g s).conns = s.conns) (H : Good A B ko (g s) c Ψ → wp (f ⟨⟩) Q (g s)) : wp (modify g >>= f) Q s :=
  wp_modify_bind (H (hG.congr hg))

theorem Good.wp_getConn {f : Conn → M β} (hG : Good A B ko s c Ψ)
    (H : ∀ x, Ψ x → Good A B ko s c (fun y => y = x) → wp (f x) Q s) : wp (getConn c >>= f) Q s :=
  wp_getConn_bind fun x hx => H x (hG.lookup hx).1 (hG.lookup hx).2

theorem Good.wp_modConn {g : Conn → Conn} {f : Unit → M β} (Ψ' : Conn → Prop) (hG : Good A B ko s c Ψ)
    (hg : ∀ x, Ψ x → Ψ' (g x)) (H : ∀ s1, Good A B ko s1 c Ψ' → wp (f ()) Q s1) :
    wp (modConn c g >>= f) Q s :=
  wp_modConn_bind fun x hx => H _ (hG.upd g hx (hg x))

end rules

end Gnet.Reactor
