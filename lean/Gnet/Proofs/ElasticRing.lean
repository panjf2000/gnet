/-
  C10, first layer: `elastic.RingBuffer` (`ERing`) = an optional ring plus the pool. The writing
  operations go through `instance()` (`inst_spec`), the reading ones end in `done()`
  (`done_setRb`). The `…Safe` conjunct of each `Ring.…_spec` is dropped: the ring the wrapper holds
  stays `Ring.WF`, from which no ring operation panics (C09).
-/
import Gnet.Model.Elastic
import Gnet.Proofs.Ring
set_option linter.unusedSectionVars false
namespace Gnet.Proofs.Elastic
open Gnet
variable {α : Type} [Inhabited α]

theorem wf_none (p : RbPool) : (⟨none, p⟩ : ERing α).WF := fun _ h => nomatch h

theorem wf_some {r : Ring α} {p : RbPool} : (⟨some r, p⟩ : ERing α).WF ↔ r.WF :=
  ⟨fun h => h r rfl, fun h _ h' => Option.some.inj h' ▸ h⟩

@[simp] theorem abs_none (p : RbPool) : (⟨none, p⟩ : ERing α).abs = [] := rfl
@[simp] theorem abs_some (r : Ring α) (p : RbPool) : (⟨some r, p⟩ : ERing α).abs = r.abs := rfl
@[simp] theorem setRb_abs (b : ERing α) (r : Ring α) : (b.setRb r).abs = r.abs := rfl

theorem pooled_spec (c : Nat) : (ERing.pooled c : Ring α).WF ∧ (ERing.pooled c : Ring α).abs = [] :=
  Ring.empty_spec List.length_replicate

theorem done_spec (b : ERing α) (h : b.WF) : b.done.WF ∧ b.done.abs = b.abs := by
  rcases b with ⟨_ | r, pool⟩
  · exact ⟨h, rfl⟩
  · simp only [ERing.done]
    split
    · next he => exact ⟨wf_none _, ((Ring.isEmpty_iff (wf_some.mp h)).mp he).symm⟩
    · exact ⟨h, rfl⟩

theorem done_setRb (b : ERing α) (r : Ring α) (h : r.WF) :
    (b.setRb r).done.WF ∧ (b.setRb r).done.abs = r.abs :=
  done_spec _ (wf_some.mpr h)

theorem doneAll_spec (b : ERing α) : b.doneAll.WF ∧ b.doneAll.abs = [] := by
  rcases b with ⟨_ | r, pool⟩ <;> exact ⟨wf_none _, rfl⟩

theorem inst_spec (b : ERing α) (h : b.WF) :
    b.inst.1.WF ∧ b.inst.1.abs = b.abs ∧ b.inst.2.rb = some b.inst.1 := by
  rcases b with ⟨_ | r, pool⟩
  · simp only [ERing.inst]
    split
    · exact and_assoc.mp ⟨pooled_spec _, rfl⟩
    · exact and_assoc.mp ⟨Ring.new_spec 0, rfl⟩
  · exact ⟨wf_some.mp h, rfl, rfl⟩

theorem ering_inst_fresh (b : ERing α) (h : b.rb = none) :
    (b.inst).1.WF ∧ (b.inst).1.abs = [] := by
  have ⟨h1, h2, _⟩ := inst_spec b fun _ hr => nomatch h ▸ hr
  exact ⟨h1, by rw [h2, ERing.abs, h]⟩

theorem write_spec (b : ERing α) (p : List α) (h : b.WF) :
    (b.write p).WF ∧ (b.write p).abs = b.abs ++ p := by
  unfold ERing.write
  split
  · next hp => simp [List.length_eq_zero_iff.mp hp, h]
  · have ⟨h1, h2, _⟩ := inst_spec b h
    have ⟨_, w2, w3⟩ := Ring.write_spec b.inst.1 p h1
    exact ⟨wf_some.mpr w2, by rw [← h2]; exact w3⟩

theorem writeByte_spec (b : ERing α) (c : α) (h : b.WF) :
    (b.writeByte c).WF ∧ (b.writeByte c).abs = b.abs ++ [c] := by
  have ⟨h1, h2, _⟩ := inst_spec b h
  have ⟨_, w2, w3⟩ := Ring.writeByte_spec b.inst.1 c h1
  exact ⟨wf_some.mpr w2, by rw [← h2]; exact w3⟩

theorem readFrom_spec (gen : Nat → α) (b : ERing α) (pos : Nat) (sc : List RStep) (h : b.WF) :
    (b.readFrom gen pos sc).1.WF ∧
    (b.readFrom gen pos sc).2.2.2 = pos + (b.readFrom gen pos sc).2.1 ∧
    (b.readFrom gen pos sc).1.abs = b.abs ++ Fifo.fresh gen pos (b.readFrom gen pos sc).2.1 ∧
    (b.readFrom gen pos sc).2.2.1 ≠ .eof := by
  have ⟨h1, h2, _⟩ := inst_spec b h
  have ⟨_, r2, m, r3, r4, r5, r6⟩ := Ring.readFrom_spec gen sc b.inst.1 pos 0 h1
  rw [Nat.zero_add] at r3
  exact ⟨wf_some.mpr r2, r3 ▸ r4, by rw [← h2]; exact r3 ▸ r5, r6⟩

theorem read_spec (b : ERing α) (n : Nat) (h : b.WF) :
    (b.read n).1.WF ∧ (b.read n).1.abs = b.abs.drop n ∧ (b.read n).2.1 = b.abs.take n ∧
    ((b.read n).2.2 = .nil ∨ b.abs = []) := by
  rcases b with ⟨_ | r, pool⟩
  · exact ⟨h, by simp [ERing.read], by simp [ERing.read], .inr rfl⟩
  · have ⟨_, r2, r3, r4, r5⟩ := Ring.read_spec r n (wf_some.mp h)
    have ⟨d1, d2⟩ := done_setRb ⟨some r, pool⟩ _ r2
    exact ⟨d1, d2.trans r3, r4, r5.imp_right (·.1)⟩

theorem writeTo_spec (b : ERing α) (sc : List WStep) (h : b.WF) :
    (b.writeTo sc).1.WF ∧
    (b.writeTo sc).1.abs = b.abs.drop (b.writeTo sc).2.1 ∧
    (b.writeTo sc).2.2.2.1 = b.abs.take (b.writeTo sc).2.1 ∧
    (b.writeTo sc).2.1 ≤ b.abs.length ∧
    ((b.writeTo sc).2.2.1 = .nil → (b.writeTo sc).2.1 = b.abs.length) := by
  rcases b with ⟨_ | r, pool⟩
  · simp [ERing.writeTo, h]
  · have ⟨_, r2, r3, r4⟩ := Ring.writeTo_spec r sc (wf_some.mp h)
    have ⟨d1, d2⟩ := done_setRb ⟨some r, pool⟩ _ r2
    exact ⟨d1, d2.trans r3, r4⟩

theorem readByte_spec (b : ERing α) (h : b.WF) :
    b.readByte.1.WF ∧ b.readByte.1.abs = b.abs.drop 1 ∧ b.readByte.2.1.toList = b.abs.take 1 ∧
    (b.readByte.2.2 = .nil ∨ b.abs = []) := by
  rcases b with ⟨_ | r, pool⟩
  · exact ⟨h, rfl, rfl, .inr rfl⟩
  · have ⟨_, r2, r3, r4, r5⟩ := Ring.readByte_spec r (wf_some.mp h)
    have ⟨d1, d2⟩ := done_setRb ⟨some r, pool⟩ _ r2
    exact ⟨d1, d2.trans r3, r4, r5.imp (·.1) (·.2)⟩

theorem discard_spec (b : ERing α) (n : Int) (h : b.WF) :
    (b.discard n).1.WF ∧ (b.discard n).1.abs = b.abs.drop n.toNat ∧
    (b.discard n).2.1 = min n.toNat b.abs.length ∧
    ((b.discard n).2.2 = .nil ∨ b.rb = none) := by
  rcases b with ⟨_ | r, pool⟩
  · exact ⟨h, by simp [ERing.discard], by simp [ERing.discard], .inr rfl⟩
  · have ⟨_, r2, r3, r4⟩ := Ring.discard_spec r n (wf_some.mp h)
    have ⟨d1, d2⟩ := done_setRb ⟨some r, pool⟩ _ r2
    exact ⟨d1, d2.trans r3, r4, .inl rfl⟩

theorem peek_spec (b : ERing α) (n : Int) (h : b.WF) :
    (b.peek n).1 ++ (b.peek n).2 = (if n ≤ 0 then b.abs else b.abs.take n.toNat) := by
  rcases b with ⟨_ | r, pool⟩
  · simp [ERing.peek]
  · exact (Ring.peek_prefix r n (wf_some.mp h)).2

theorem bytes_spec (b : ERing α) (h : b.WF) : b.bytes = b.abs := by
  rcases b with ⟨_ | r, pool⟩
  · rfl
  · exact (Ring.bytes_spec r (wf_some.mp h)).2

theorem reset_spec (b : ERing α) (h : b.WF) : b.reset.WF ∧ b.reset.abs = [] := by
  rcases b with ⟨_ | r, pool⟩
  · exact ⟨h, rfl⟩
  · have ⟨r1, r2⟩ := Ring.reset_spec r (wf_some.mp h)
    exact ⟨wf_some.mpr r1, r2⟩

theorem counters (b : ERing α) (h : b.WF) :
    b.buffered = b.abs.length ∧ (b.isEmpty = true ↔ b.buffered = 0) ∧
    b.buffered + b.available = b.cap := by
  rcases b with ⟨_ | r, pool⟩
  · simp [ERing.buffered, ERing.isEmpty, ERing.available, ERing.cap]
  · have ⟨c1, c2, c3, _⟩ := Ring.counters r (wf_some.mp h)
    exact ⟨c1, c3, c2⟩

end Gnet.Proofs.Elastic
