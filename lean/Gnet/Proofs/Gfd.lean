import Gnet.Model.Gfd
import Gnet.Proofs.ListFacts
/-
  C20: a read of a field passes the writes to other bytes and meets its own (`getBE_putBE`).
-/
namespace Gnet.Proofs.Gfd
open Gnet GFD

theorem putBE_succ (g : GFD) (off n v : Nat) :
    putBE g off (n + 1) v = (putBE g off n (v / 256)).set (off + n) (BitVec.ofNat 8 v) := by
  rw [putBE, putBE, List.range_succ, List.foldl_append]
  simp only [List.foldl_cons, List.foldl_nil, Nat.add_sub_cancel, Nat.sub_self, Nat.pow_zero, Nat.div_one]
  congr 1
  apply foldl_congr_mem
  intro b i hi
  rw [List.mem_range] at hi
  rw [show n - i = n - 1 - i + 1 by omega, Nat.pow_succ', Nat.div_div_eq_div_mul]

theorem getBE_succ (g : GFD) (off n : Nat) :
    getBE g off (n + 1) = getBE g off n * 256 + (g.getD (off + n) 0).toNat := by
  simp [getBE, List.range_succ]

theorem length_putBE (g : GFD) (off n v : Nat) : (putBE g off n v).length = g.length := by
  induction n generalizing v with
  | zero => rfl
  | succ n ih => rw [putBE_succ, List.length_set, ih]

theorem getD_putBE_of_outside {g : GFD} {off n v i : Nat} (h : i < off ∨ off + n ≤ i) :
    (putBE g off n v).getD i 0 = g.getD i 0 := by
  induction n generalizing v with
  | zero => rfl
  | succ n ih => rw [putBE_succ, getD_set_ne (by omega), ih (by omega)]

theorem getBE_congr {g g' : GFD} {off n : Nat}
    (h : ∀ i, off ≤ i → i < off + n → g.getD i 0 = g'.getD i 0) : getBE g off n = getBE g' off n := by
  induction n with
  | zero => rfl
  | succ n ih =>
    rw [getBE_succ, getBE_succ, ih fun i h1 h2 => h i h1 (by omega), h _ (by omega) (by omega)]

theorem getBE_set_of_outside {g : GFD} {off n i : Nat} {b : BitVec 8} (h : i < off ∨ off + n ≤ i) :
    getBE (g.set i b) off n = getBE g off n :=
  getBE_congr fun _ _ _ => getD_set_ne (by omega)

theorem getBE_putBE_of_disjoint {g : GFD} {off n off' n' v : Nat}
    (h : off + n ≤ off' ∨ off' + n' ≤ off) :
    getBE (putBE g off' n' v) off n = getBE g off n :=
  getBE_congr fun _ _ _ => getD_putBE_of_outside (by omega)

theorem getBE_putBE {g : GFD} {off n : Nat} (v : Nat) (h : off + n ≤ g.length) :
    getBE (putBE g off n v) off n = v % 256 ^ n := by
  induction n generalizing v with
  | zero => simp [getBE, Nat.mod_one]
  | succ n ih =>
    rw [getBE_succ, putBE_succ, getD_set_self (by rw [length_putBE]; omega),
      getBE_set_of_outside (by omega), ih _ (by omega), BitVec.toNat_ofNat, Nat.pow_succ' (n := n),
      Nat.mod_mul]
    -- `omega` would take `↑(256 ^ n)` and `↑256 ^ n` for different atoms
    generalize 256 ^ n = K
    omega

theorem getBE_putBE_toNat {g : GFD} {off n w : Nat} (x : BitVec w) (h : off + n ≤ g.length)
    (hw : 2 ^ w ≤ 256 ^ n) : getBE (putBE g off n x.toNat) off n = x.toNat := by
  rw [getBE_putBE _ h, Nat.mod_eq_of_lt (Nat.lt_of_lt_of_le x.isLt hw)]

theorem update_fields (g : GFD) (r c : BitVec 64) (h : colOff + 2 ≤ g.length) :
    (g.updateIndexes r c).fd = g.fd ∧ (g.updateIndexes r c).eventLoopIndex = g.eventLoopIndex ∧
    (g.updateIndexes r c).row = (r.setWidth 8).setWidth 64 ∧
    (g.updateIndexes r c).column = (c.setWidth 16).setWidth 64 ∧
    (g.updateIndexes r c).sequence = g.sequence := by
  have h1 : 1 < g.length := Nat.lt_of_lt_of_le (by decide) h
  have h2 : colOff + 2 ≤ (g.set 1 (r.setWidth 8)).length := by rw [List.length_set]; exact h
  simp (disch := decide) only [GFD.fd, eventLoopIndex, GFD.row, column, sequence, updateIndexes,
    getBE_putBE_of_disjoint, getBE_set_of_outside, getD_putBE_of_outside, getD_set_ne, getD_set_self h1,
    getBE_putBE_toNat _ h2, BitVec.ofNat_toNat, and_self]

theorem new_fields (fd el row col : BitVec 64) (seq : BitVec 32) :
    (GFD.new fd el row col seq).fd = fd ∧
    (GFD.new fd el row col seq).eventLoopIndex = (el.setWidth 8).setWidth 64 ∧
    (GFD.new fd el row col seq).row = (row.setWidth 8).setWidth 64 ∧
    (GFD.new fd el row col seq).column = (col.setWidth 16).setWidth 64 ∧
    (GFD.new fd el row col seq).sequence = seq := by
  -- the lengths are those of explicit lists, rewritten before `decide`
  simp (disch := (simp -failIfUnchanged only [length_putBE, List.length_set,
      List.length_replicate]; decide)) only [GFD.fd, eventLoopIndex, GFD.row, column, sequence, GFD.new,
    getBE_putBE_of_disjoint, getD_putBE_of_outside, getD_set_ne, getD_set_self, getBE_putBE_toNat,
    BitVec.ofNat_toNat, BitVec.setWidth_eq, and_self]

end Gnet.Proofs.Gfd

-- the two results stand with the other C20 results, in `Gnet.Proofs.Arith`
namespace Gnet.Proofs.Arith
open Gnet GFD Gnet.Proofs.Gfd

theorem gfd_roundtrip (fd el row col : BitVec 64) (seq : BitVec 32)
    (hel : el.toNat < 256) (hrow : row.toNat < 256) (hcol : col.toNat < 65536) :
    (GFD.new fd el row col seq).fd = fd ∧ (GFD.new fd el row col seq).eventLoopIndex = el ∧
    (GFD.new fd el row col seq).row = row ∧ (GFD.new fd el row col seq).column = col ∧
    (GFD.new fd el row col seq).sequence = seq := by
  have := new_fields fd el row col seq
  rwa [BitVec.setWidth_setWidth_eq_self (w' := 8) hel, BitVec.setWidth_setWidth_eq_self (w' := 8) hrow,
    BitVec.setWidth_setWidth_eq_self (w' := 16) hcol] at this

theorem gfd_update (fd el row col row' col' : BitVec 64) (seq : BitVec 32)
    (hel : el.toNat < 256) (hrow : row'.toNat < 256) (hcol : col'.toNat < 65536) :
    let g := (GFD.new fd el row col seq).updateIndexes row' col'
    g.fd = fd ∧ g.eventLoopIndex = el ∧ g.row = row' ∧ g.column = col' ∧ g.sequence = seq := by
  obtain ⟨nf, ne, -, -, ns⟩ := new_fields fd el row col seq
  have := update_fields (GFD.new fd el row col seq) row' col' (by simp [GFD.new, length_putBE]; decide)
  rwa [nf, ne, ns, BitVec.setWidth_setWidth_eq_self (w' := 8) hel,
    BitVec.setWidth_setWidth_eq_self (w' := 8) hrow, BitVec.setWidth_setWidth_eq_self (w' := 16) hcol] at this

end Gnet.Proofs.Arith
