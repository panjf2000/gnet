import Gnet.Model.Sockaddr
import Gnet.Proofs.ListFacts
/-
  C17: the v6 round trip holds for any zone that `zoneToInt` and `zoneToString` carry to an index and back.
-/
namespace Gnet.Proofs.Sockaddr
open Gnet.Sockaddr

structure GoodTable (ifs : IfTable) : Prop where
  names_nodup : (ifs.map (·.1)).Nodup
  idx_nodup : (ifs.map (·.2)).Nodup
  idx_pos : ∀ p ∈ ifs, 0 < p.2
  name_ne : ∀ p ∈ ifs, p.1 ≠ ""
  name_not_number : ∀ p ∈ ifs, ∀ n : Nat, p.1 ≠ itod n

theorem digit_spec : ∀ d, d < 10 →
    ('0' ≤ Char.ofNat (d + '0'.toNat) ∧ Char.ofNat (d + '0'.toNat) ≤ '9') ∧
      (Char.ofNat (d + '0'.toNat)).toNat - '0'.toNat = d := by decide

theorem dtoiLoop_digits (f : Nat) : ∀ (v : Nat) (rest : List Char) (acc i : Nat), v < 10 ^ f →
    acc * 10 ^ (itodDigits f v).length + v < big →
    dtoiLoop (itodDigits f v ++ rest) acc i =
      dtoiLoop rest (acc * 10 ^ (itodDigits f v).length + v) (i + (itodDigits f v).length) := by
  -- `itodDigits` appends the last digit, so the induction keeps `acc` and `i` and grows `rest`
  induction f with
  | zero =>
    intro v rest acc i hv _
    cases Nat.lt_one_iff.1 hv
    exact congrArg (dtoiLoop rest · i) (Nat.mul_one acc).symm
  | succ f ih =>
    intro v rest acc i hv hb
    by_cases h0 : v = 0
    · rw [itodDigits, if_pos h0, h0]
      exact congrArg (dtoiLoop rest · i) (Nat.mul_one acc).symm
    · obtain ⟨h1, h2⟩ := digit_spec (v % 10) (Nat.mod_lt _ (by decide))
      rw [itodDigits, if_neg h0, List.length_append, List.length_singleton, Nat.pow_succ,
        ← Nat.mul_assoc] at hb ⊢
      rw [List.append_assoc, ih (v / 10) _ acc i (Nat.div_lt_of_lt_mul (Nat.pow_succ' ▸ hv)) (by omega),
        List.singleton_append, dtoiLoop, if_pos h1, h2]
      dsimp only
      rw [Nat.add_mul, Nat.add_assoc, Nat.div_add_mod' v 10, if_neg (Nat.not_le.2 hb)]
      rfl

theorem dtoi_itod (n : Nat) (hb : n < big) (h0 : 0 < n) : dtoi (itod n) = (n, true) := by
  have hl := dtoiLoop_digits 32 n [] 0 0 (Nat.lt_trans hb (by decide))
    (by rwa [Nat.zero_mul, Nat.zero_add])
  rw [List.append_nil, dtoiLoop, Nat.zero_mul, Nat.zero_add, Nat.zero_add] at hl
  rw [itod, if_neg (Nat.ne_of_gt h0), dtoi, String.toList_ofList, hl]
  -- `n ≠ 0` has a last digit, so at least one digit was read
  rw [itodDigits, if_neg (Nat.ne_of_gt h0), List.length_append]
  rfl

theorem itod_ne_empty (n : Nat) (h0 : 0 < n) : itod n ≠ "" := by
  rw [itod, if_neg (Nat.ne_of_gt h0), itodDigits, if_neg (Nat.ne_of_gt h0)]
  exact mt String.ofList_eq_empty_iff.1 (List.append_ne_nil_of_right_ne_nil _ (List.cons_ne_nil _ _))

theorem zone_none (ifs : IfTable) : zoneToInt ifs "" = 0 ∧ zoneToString ifs 0 = "" :=
  ⟨if_pos rfl, if_pos rfl⟩

theorem zone_name {ifs : IfTable} (hg : GoodTable ifs) {name : String} {idx : Nat}
    (hz : (name, idx) ∈ ifs) :
    zoneToInt ifs name = idx ∧ zoneToString ifs idx = name := by
  constructor
  · rw [zoneToInt, if_neg (hg.name_ne _ hz), find?_key (·.1) hg.names_nodup hz]
  · rw [zoneToString, if_neg (Nat.ne_of_gt (hg.idx_pos _ hz)), find?_key (·.2) hg.idx_nodup hz]

theorem zone_number {ifs : IfTable} (hg : GoodTable ifs) {n : Nat} (h0 : 0 < n) (hb : n < big)
    (hni : ∀ p ∈ ifs, p.2 ≠ n) : zoneToInt ifs (itod n) = n ∧ zoneToString ifs n = itod n := by
  constructor
  · have : ifs.find? (·.1 == itod n) = none :=
      List.find?_eq_none.2 fun p hp => by simpa using hg.name_not_number p hp n
    rw [zoneToInt, if_neg (itod_ne_empty n h0), this, dtoi_itod n hb h0]
  · have : ifs.find? (·.2 == n) = none := List.find?_eq_none.2 fun p hp => by simpa using hni p hp
    rw [zoneToString, if_neg (Nat.ne_of_gt h0), this]

theorem ipEqual_to4 {ip ip4 : IP} (h : to4 ip = some ip4) : ipEqual ip4 ip = true := by
  unfold to4 at h
  split at h
  · cases h
    simp [ipEqual]
  · split at h
    · next h' =>
      cases h
      simp [ipEqual, h'.1, h'.2]
    · cases h

theorem roundtrip_v4 (ifs : IfTable) (ip : IP) (port : Int) (h4 : (to4 ip).isSome) :
    ∃ sa a, ipToSockaddr ifs ip false port "" = some sa ∧ sockaddrToNetAddr ifs sa = some a ∧
      ipEqual a.ip ip = true ∧ a.port = port ∧ a.zone = "" := by
  obtain ⟨ip4, h⟩ := Option.isSome_iff_exists.1 h4
  refine ⟨.inet4 port ip4, _, ?_, rfl, ipEqual_to4 h, rfl, rfl⟩
  rw [ipToSockaddr, if_neg Bool.false_ne_true, h]
  rfl

theorem roundtrip_v6 (ifs : IfTable) (ip : IP) (port : Int) (zone : String) (idx : Nat)
    (h16 : ip.length = 16) (hn4 : to4 ip = none) (hi : idx < 2 ^ 32)
    (hz : zoneToInt ifs zone = idx ∧ zoneToString ifs idx = zone) :
    ∃ sa a, ipToSockaddr ifs ip false port zone = some sa ∧ sockaddrToNetAddr ifs sa = some a ∧
      a.ip = ip ∧ a.port = port ∧ a.zone = zone := by
  have h6 : to16 ip = some ip := by rw [to16, if_neg (by omega), if_pos h16]
  refine ⟨.inet6 port idx ip, _, ?_, rfl, rfl, rfl, hz.2⟩
  rw [ipToSockaddr, if_neg Bool.false_ne_true, hn4, h6, hz.1, Nat.mod_eq_of_lt hi]
  rfl

theorem roundtrip_v6_name (ifs : IfTable) (hg : GoodTable ifs) (ip : IP) (port : Int) (name : String)
    (idx : Nat) (h16 : ip.length = 16) (hn4 : to4 ip = none) (hz : (name, idx) ∈ ifs) (hi : idx < 2 ^ 32) :
    ∃ sa a, ipToSockaddr ifs ip false port name = some sa ∧ sockaddrToNetAddr ifs sa = some a ∧
      a.ip = ip ∧ a.port = port ∧ a.zone = name :=
  roundtrip_v6 ifs ip port name idx h16 hn4 hi (zone_name hg hz)

theorem invalid_length_nil (ifs : IfTable) (ip : IP) (port : Int) (zone : String)
    (h4 : ip.length ≠ 4) (h16 : ip.length ≠ 16) : ipToSockaddr ifs ip false port zone = none := by
  have e4 : to4 ip = none := by rw [to4, if_neg h4, if_neg (fun h => h16 h.1)]
  have e16 : to16 ip = none := by rw [to16, if_neg h4, if_neg h16]
  rw [ipToSockaddr, if_neg Bool.false_ne_true, e4, e16]
  rfl
end Gnet.Proofs.Sockaddr
