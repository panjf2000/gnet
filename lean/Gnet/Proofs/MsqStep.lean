import Gnet.Model.Msq
import Gnet.Proofs.MsqInv
namespace Gnet.Proofs.Msq
open Gnet.Msq

theorem inv_init (n : Nat) : Inv (init n) := by
  have hth : ∀ (tid : Nat) (th : Thread), (init n).threads[tid]? = some th → th = {} := fun tid th h =>
    (List.mem_replicate.1 (List.mem_of_getElem? h)).2
  refine ⟨[0], 0, 0, ⟨rfl, ?_, by simp, ?_, ?_⟩, rfl, rfl, Nat.le_refl _, by simp, rfl, rfl,
    ?_, ?_, ?_, ?_⟩
  · intro i x hi
    obtain ⟨rfl, rfl⟩ : i = 0 ∧ x = 0 := by cases i <;> simp_all
    rfl
  · intro x hx; simp_all [init]
  · intro x hx
    cases x with
    | zero => simp at hx
    | succ x => simp [init, default_next]
  · simp [init, List.countP_replicate]
  · intro tid th h p; rw [hth tid th h] at p; cases p
  · intro tid th h; rw [hth tid th h]; trivial
  · intro i j ti tj hi _ pi; rw [hth i ti hi] at pi; cases pi

theorem inv_step {s : State} (hI : Inv s) (tid : Nat) : Inv (step s tid).1 := by
  obtain ⟨c, h, t, I⟩ := hI
  cases hth : s.threads[tid]? with
  | none => simp only [step, hth]; exact ⟨c, h, t, I⟩
  | some th =>
    have hT := I.snap tid th hth
    cases hpc : th.pc <;> simp only [step, hth, hpc, Snap] at hT ⊢
    case idle => exact ⟨c, h, t, I⟩
    case eLoadTail => exact I.local hth hpc rfl rfl ⟨t, I.tl, Nat.le_refl _⟩
    case eLoadNext =>
      obtain ⟨p, hp, hle⟩ := hT
      exact I.local hth hpc rfl rfl ⟨p, hp, hle, fun nx e => I.next hp ▸ e⟩
    case eReloadTail =>
      obtain ⟨p, hp, hle, hnx⟩ := hT
      split
      · split
        · exact I.local hth hpc rfl rfl ⟨p, hp, hle⟩
        · exact I.local hth hpc rfl rfl ⟨p, hp, hnx⟩
      · exact I.local hth hpc rfl rfl trivial
    case eCasNext =>
      obtain ⟨p, hp, hle⟩ := hT
      obtain ⟨hnc, hnl⟩ := I.fresh tid th hth (by rw [hpc]; rfl)
      split
      · rename_i hnone
        -- the read tail is the last chain node, so the shared tail has not moved past it
        have hp1 : c[p+1]? = none := I.next hp ▸ hnone
        have hL1 := List.getElem?_eq_none_iff.1 hp1
        have hL3 := lt_of_getElem? I.tl
        refine ⟨_, h, t, I.update (l := [th.node]) hth rfl rfl (I.linked.link hp hp1 hnc hnl)
          (hnl := by simp [setThread]) (hv := fun y _ => getD_set_next_value s.nodes th.tail th.node y)
          (hh := Nat.le_refl _) (hht := I.ht) (htt := Nat.le_refl _) (hlag := by simp; omega)
          (hhd := getElem?_append_of I.hd) (htl := getElem?_append_of I.tl) (hfresh := nofun)
          (habs := ?_) (hfifo := ?_) (hlen := ?_) (hsnap := ⟨p, getElem?_append_of hp, ?_⟩) (hl := ?_)⟩
        · show s.absQ ++ _ = _
          rw [I.abs, List.drop_append_of_le_length (by have := I.ht; omega)]; simp
        · show s.enqLog ++ _ = s.deqLog ++ (s.absQ ++ _)
          rw [I.fifo, List.append_assoc]
        · show s.length - ((s.absQ ++ _).length : Int) + _ - _ = _
          simp [cntB, subB, hpc]; omega
        · rw [show p + 1 = c.length by omega]; simp
        · intro j u hj hu pu
          have hne : u.node ≠ th.node := fun e => hj (I.dist j tid u th hu hth pu (by rw [hpc]; rfl) e)
          exact ⟨by simpa using hne, nofun⟩
      · exact I.local hth hpc rfl rfl trivial
    case eCasTail =>
      obtain ⟨p, hp, hp1⟩ := hT
      exact I.casTail hth hpc rfl rfl hp hp1 fun _ => trivial
    case eAdd => exact I.settle hth (by simp [cntB, subB, hpc])
    case eHelpTail =>
      obtain ⟨p, hp, hp1⟩ := hT
      split
      · exact I.casTail hth hpc rfl rfl hp (hp1 _ ‹_›) fun _ => trivial
      · exact I.local hth hpc rfl rfl trivial
    case dLoadHead => exact I.local hth hpc rfl rfl ⟨h, I.hd, Nat.le_refl _⟩
    case dLoadTail =>
      obtain ⟨ph, hph, hle⟩ := hT
      exact I.local hth hpc rfl rfl ⟨ph, t, hph, hle, I.tl, Nat.le_refl _, Nat.le_trans hle I.ht⟩
    case dLoadNext =>
      obtain ⟨ph, pt, hph, hle, hpt, hle2, hle3⟩ := hT
      refine I.local hth hpc rfl rfl ⟨ph, pt, hph, hpt, hle2, hle3, ?_, ?_⟩
      · exact fun nx e => I.next hph ▸ e
      · -- `head.next = nil` at a node at or before the shared head: the chain ends there
        intro hnone
        have h1 := List.getElem?_eq_none_iff.1 (I.next hph ▸ hnone)
        have h2 := lt_of_getElem? hpt
        refine ⟨by omega, ?_⟩
        simp [I.abs]; omega
    case dReloadHead =>
      obtain ⟨ph, pt, hph, hpt, hle2, hle3, hsome, hnone⟩ := hT
      split
      · split
        · rename_i heq2
          split
          · exact I.local hth hpc rfl rfl trivial
          · obtain rfl : ph = pt := nodup_idx I.linked.nodup hph (heq2 ▸ hpt)
            exact I.local hth hpc rfl rfl ⟨ph, hpt, hsome⟩
        · rename_i heq2
          split
          · rename_i nx hn
            have hne : ph ≠ pt := fun e => heq2 (Option.some.inj ((e ▸ hph).symm.trans hpt))
            exact I.local hth hpc rfl rfl ⟨ph, nx, hph, by omega, hn, hsome nx hn, rfl⟩
          · exact I.local hth hpc rfl rfl trivial
      · exact I.local hth hpc rfl rfl trivial
    case dHelpTail =>
      obtain ⟨p, hp, hp1⟩ := hT
      split
      · exact I.casTail hth hpc rfl rfl hp (hp1 _ ‹_›) fun _ => trivial
      · exact I.local hth hpc rfl rfl trivial
    case dCasHead =>
      obtain ⟨ph, nx, hph, hlt, hn, hnx, htask⟩ := hT
      simp only [hn]
      split
      · rename_i heq
        obtain rfl : ph = h := nodup_idx I.linked.nodup hph (heq ▸ I.hd)
        have hL := lt_of_getElem? hnx
        have habsl : s.absQ.length = c.length - (ph + 1) := by simp [I.abs]
        refine ⟨c, ph+1, t, I.same hth (Nat.le_succ _) hlt (Nat.le_refl _) hnx I.tl ?_ ?_ ?_ nofun rfl ?_⟩
        · simp [I.abs, ← List.map_drop]
        · rw [I.fifo, List.append_assoc, List.take_append_drop]
        · simp [cntB, subB, hpc]; omega
        · show s.absQ.head? = _
          rw [I.absQ_head hnx, htask]
      · exact I.local hth hpc rfl rfl trivial
    case dSub => exact I.settle hth (by simp [cntB, subB, hpc])
    case lLoad => exact I.local hth hpc rfl rfl trivial

theorem inv_start {s : State} (hI : Inv s) (tid : Nat) (op : Op) : Inv (start s tid op) := by
  obtain ⟨c, h, t, I⟩ := hI
  unfold start
  split
  · exact ⟨c, h, t, I⟩
  · rename_i th hth
    split
    · exact ⟨c, h, t, I⟩
    · rename_i hpc
      have hpc : th.pc = .idle := by simpa using hpc
      cases op with
      | deq => exact I.local hth hpc rfl rfl trivial
      | len => exact I.local hth hpc rfl rfl trivial
      | enq v =>
        refine ⟨c, h, t, I.update (l := []) hth rfl (List.append_nil c).symm (I.linked.alloc v)
          (hnl := by simp [setThread]) (hh := Nat.le_refl _) (hht := I.ht) (htt := Nat.le_refl _)
          (hlag := I.lag) (hhd := I.hd) (htl := I.tl) (habs := I.abs) (hfifo := I.fifo) (hsnap := trivial)
          (hv := ?_) (hlen := ?_) (hfresh := fun _ => ⟨fun hm => ?_, ?_⟩) (hl := ?_)⟩
        · intro x hx
          simp [valueOf, setThread, List.getD_eq_getElem?_getD,
            List.getElem?_append_left (I.linked.bound x hx)]
        · simp [cntB, subB, hpc, setThread]
        · have := I.linked.bound _ hm; simp at this
        · simp [setThread]
        · intro j u hj hu pu
          have := (I.fresh j u hu pu).2
          exact ⟨List.not_mem_nil, fun _ => by simp; omega⟩

theorem inv_runEvs : ∀ (evs : List Ev) (s : State), Inv s → Inv (runEvs s evs)
  | [], _, hs => hs
  | .start tid op :: es, _, hs => inv_runEvs es _ (inv_start hs tid op)
  | .step tid :: es, _, hs => inv_runEvs es _ (inv_step hs tid)

theorem inv_reachable {s : State} (hr : Reachable s) : Inv s := by
  obtain ⟨n, evs, rfl⟩ := hr
  exact inv_runEvs evs _ (inv_init n)

theorem Inv.nil_next {s : State} (I : Inv s) {tid : Nat} {th : Thread} (hth : s.threads[tid]? = some th)
    (hpc : th.pc = .dReloadHead) (hn : th.next = none) : th.head = th.tail ∧ th.ghostSawEmpty = true := by
  obtain ⟨c, h, t, I⟩ := I
  have hT := I.snap tid th hth
  simp only [Snap, hpc] at hT
  obtain ⟨ph, pt, hph, hpt, _, _, _, hnone⟩ := hT
  obtain ⟨rfl, he⟩ := hnone hn
  exact ⟨Option.some.inj (hph.symm.trans hpt), he⟩

theorem step_deqNone {s : State} {tid : Nat} {th : Thread} (hth : s.threads[tid]? = some th)
    (hr : (step s tid).2 = some .deqNone) : th.pc = .dReloadHead ∧ th.next = none := by
  simp only [step, hth] at hr
  cases hpc : th.pc <;> simp only [hpc] at hr
  case dReloadHead =>
    cases hn : th.next with
    | none => exact ⟨rfl, rfl⟩
    | some nx => simp only [hn] at hr; (repeat' split at hr) <;> cases hr
  all_goals (repeat' split at hr) <;> cases hr

theorem quiescent (s : State) (h : Reachable s) (hq : ∀ t ∈ s.threads, t.pc = .idle) :
    s.length = s.absQ.length := by
  obtain ⟨c, hh, t, I⟩ := inv_reachable h
  have h1 : s.threads.countP (fun t => t.pc == .eCasTail || t.pc == .eAdd) = 0 :=
    List.countP_eq_zero.2 fun t ht => by simp [hq t ht]
  have h2 : s.threads.countP (fun t => t.pc == .dSub) = 0 :=
    List.countP_eq_zero.2 fun t ht => by simp [hq t ht]
  simpa [h1, h2] using I.len

end Gnet.Proofs.Msq
