import Gnet.Model.Ring
/-
  What a ring buffer holds: a cyclic window of its slice. `shape` and `of_shape` restate `WF` in
  terms of the read cursor and the number of buffered elements; the proofs about the operations use
  the content through these, except where the Go code makes the same case distinction as
  `Ring.abs` (`Bytes`, `Peek`).
-/
-- `[Inhabited α]` is the model's (`grow`, `new` fill with `default`); most statements do not use it
set_option linter.unusedSectionVars false
namespace Gnet.Proofs.Ring
open Gnet
variable {α : Type} [Inhabited α]

/-- Reading from the buffer laid out twice keeps `%` out of the lemmas: only `win_mod` knows that
    positions `r` and `r % buf.length` are the same. -/
def win (buf : List α) (r k : Nat) : List α := ((buf ++ buf).drop r).take k

theorem win_zero (buf : List α) (r : Nat) : win buf r 0 = [] := rfl

theorem length_win {buf : List α} {r k : Nat} (h : r + k ≤ 2 * buf.length) :
    (win buf r k).length = k := by
  simp only [win, List.length_take, List.length_drop, List.length_append]; omega

theorem win_add (buf : List α) (r a b : Nat) :
    win buf r (a + b) = win buf r a ++ win buf (r + a) b := by
  simp only [win, List.take_add, List.drop_drop]

theorem take_win (buf : List α) (r k m : Nat) : (win buf r k).take m = win buf r (min m k) :=
  List.take_take

theorem drop_win (buf : List α) (r k m : Nat) :
    (win buf r k).drop m = win buf (r + m) (k - m) := by
  simp only [win, List.drop_take, List.drop_drop]

theorem win_of_le {buf : List α} {r k : Nat} (h : r + k ≤ buf.length) :
    win buf r k = (buf.drop r).take k := by
  rw [win, List.drop_append_of_le_length (Nat.le_of_add_right_le h),
    List.take_append_of_le_length (List.length_drop ▸ Nat.le_sub_of_add_le' h)]

theorem win_of_ge {buf : List α} {r k : Nat} (hr : r ≤ buf.length) (h : buf.length ≤ r + k) :
    win buf r k = buf.drop r ++ buf.take (k - (buf.length - r)) := by
  rw [win, List.drop_append_of_le_length hr, List.take_append,
    List.take_of_length_le (by simp; omega), List.length_drop]

theorem win_mod {buf : List α} {r k : Nat} (h : r + k < 2 * buf.length) :
    win buf r k = win buf (r % buf.length) k := by
  by_cases hr : r < buf.length
  · rw [Nat.mod_eq_of_lt hr]
  · rw [Nat.mod_eq_sub_mod (Nat.le_of_not_lt hr), Nat.mod_eq_of_lt (by omega),
      win_of_le (r := r - buf.length) (by omega), win, List.drop_append,
      List.drop_of_length_le (Nat.le_of_not_lt hr), List.nil_append]

theorem blit_fit {dst src : List α} {off : Nat} (h : off + src.length ≤ dst.length) :
    blit dst off src = dst.take off ++ src ++ dst.drop (off + src.length) := by
  have h1 := Nat.le_sub_of_add_le' h
  rw [blit, List.take_of_length_le h1, Nat.min_eq_left h1]

theorem length_blit (dst src : List α) (off : Nat) (h : off ≤ dst.length) :
    (blit dst off src).length = dst.length := by
  rw [blit, List.length_append, List.length_append, List.length_take, List.length_take,
    List.length_drop, Nat.min_eq_left h, Nat.min_comm,
    Nat.add_sub_cancel' (Nat.add_le_of_le_sub' h (Nat.min_le_right ..))]

theorem take_blit {dst src : List α} {off j : Nat} (hj : j ≤ off) (h : off ≤ dst.length) :
    (blit dst off src).take j = dst.take j := by
  rw [blit, List.append_assoc, List.take_append_of_le_length (by simp; omega), List.take_take,
    Nat.min_eq_left hj]

theorem drop_blit {dst src : List α} {off j : Nat} (h : off + src.length ≤ dst.length)
    (hj : off + src.length ≤ j) :
    (blit dst off src).drop j = dst.drop j := by
  rw [blit_fit h, List.drop_append, List.drop_of_length_le (by simp; omega), List.nil_append,
    List.drop_drop]
  congr 1; simp; omega

theorem set_eq_blit {buf : List α} {w : Nat} {c : α} (h : w < buf.length) :
    buf.set w c = blit buf w [c] := by
  rw [blit_fit (Nat.succ_le_of_lt h), List.set_eq_take_append_cons_drop, if_pos h]; simp

theorem win_blit_self {buf p : List α} {w : Nat} (h : w + p.length ≤ buf.length) :
    win (blit buf w p) w p.length = p := by
  rw [win_of_le (by rw [length_blit _ _ _ (Nat.le_of_add_right_le h)]; exact h), blit_fit h,
    List.append_assoc, List.drop_left' (by simp; omega), List.take_left' rfl]

/-- `hd`: the window, cyclically, does not meet the copied region `[w, w + p.length)` -/
theorem win_blit {buf p : List α} {w r k : Nat} (h : w + p.length ≤ buf.length)
    (hr : r ≤ buf.length)
    (hd : r + k ≤ w ∨ w + p.length ≤ r ∧ r + k ≤ w + buf.length) :
    win (blit buf w p) r k = win buf r k := by
  have hl := length_blit buf p w (Nat.le_of_add_right_le h)
  by_cases hk : r + k ≤ buf.length
  · rw [win_of_le (by omega), win_of_le hk]
    rcases hd with hd | hd
    · rw [List.take_drop, List.take_drop, take_blit hd (by omega)]
    · rw [drop_blit h hd.1]
  · rw [win_of_ge (by omega) (by omega), win_of_ge hr (Nat.le_of_not_le hk), hl,
      drop_blit h (by omega), take_blit (by omega) (by omega)]

/-- `%` after at most one wrap, in the form `omega` can use -/
theorem mod_wrap (a s : Nat) (h : a < 2 * s) : a % s < s ∧ (a % s = a ∨ a % s + s = a) := by
  by_cases h' : a < s
  · rw [Nat.mod_eq_of_lt h']; omega
  · rw [Nat.mod_eq_sub_mod (by omega), Nat.mod_eq_of_lt (by omega)]; omega

/-- Go's `if a == size { a = 0 }` after an increment that cannot pass `size` -/
theorem wrap_eq_mod {a s : Nat} (h : a ≤ s) : (if a = s then 0 else a) = a % s := by
  split
  next e => rw [e, Nat.mod_self]
  next e => rw [Nat.mod_eq_of_lt (by omega)]

/-- the two layouts of a non-empty ring, told apart by the test the Go code makes -/
theorem lay {rb : Ring α} (h : rb.WF) (he : rb.isEmpty = false) :
    rb.buf.length = rb.size ∧
    (rb.r < rb.w ∧ rb.w < rb.size ∧ rb.w - rb.r = rb.buffered ∧
       rb.size - rb.w + rb.r = rb.available ∨
     ¬ rb.r < rb.w ∧ rb.r < rb.size ∧ rb.size - rb.r + rb.w = rb.buffered ∧
       rb.r - rb.w = rb.available) := by
  refine ⟨h.len_eq, ?_⟩
  have hs : rb.size ≠ 0 := fun h0 => by simp [h.zero_empty h0] at he
  have hr := h.r_lt.resolve_left hs
  unfold Ring.buffered Ring.available
  by_cases c : rb.r < rb.w
  · exact .inl ⟨c, h.w_lt.resolve_left hs, by rw [if_neg (Nat.ne_of_lt c), if_pos c],
      by rw [if_neg (Nat.ne_of_lt c), if_neg (Nat.lt_asymm c)]⟩
  · refine .inr ⟨c, hr, ?_⟩
    rw [he, if_neg c]
    split
    next e => rw [← e, Nat.sub_add_cancel (Nat.le_of_lt hr), Nat.sub_self]; exact ⟨rfl, rfl⟩
    next e => rw [if_pos (by omega)]; exact ⟨rfl, rfl⟩

theorem shape {rb : Ring α} (h : rb.WF) :
    rb.buf.length = rb.size ∧ rb.abs = win rb.buf rb.r rb.buffered ∧
    rb.buffered + rb.available = rb.size ∧ (rb.r + rb.buffered) % rb.size = rb.w ∧
    (rb.isEmpty = true ∧ rb.r = 0 ∧ rb.buffered = 0 ∨
     rb.isEmpty = false ∧ rb.r < rb.size ∧ 0 < rb.buffered) := by
  refine ⟨h.len_eq, ?_⟩
  cases he : rb.isEmpty
  · simp only [Ring.abs, he, Bool.false_eq_true, if_false, false_and, true_and, false_or]
    obtain ⟨hl, ⟨c, hw, hk, ha⟩ | ⟨c, hr, hk, ha⟩⟩ := lay h he
    · have hrk : rb.r + rb.buffered = rb.w := by omega
      rw [if_pos c, hk, win_of_le (hl ▸ hrk ▸ Nat.le_of_lt hw), hrk, Nat.mod_eq_of_lt hw]
      exact ⟨rfl, by omega⟩
    · have hrk : rb.r + rb.buffered = rb.w + rb.size := by omega
      rw [if_neg c, win_of_ge (hl ▸ Nat.le_of_lt hr) (hl ▸ hrk ▸ Nat.le_add_left ..), hrk, hl,
        ← hk, Nat.add_sub_cancel_left, Nat.add_mod_right,
        Nat.mod_eq_of_lt (Nat.lt_of_le_of_lt (Nat.le_of_not_lt c) hr)]
      exact ⟨rfl, by omega⟩
  · obtain ⟨h1, h2⟩ := h.empty_zero he
    simp [Ring.abs, Ring.buffered, Ring.available, he, h1, h2, win_zero]

theorem abs_eq_win {rb : Ring α} (h : rb.WF) : rb.abs = win rb.buf rb.r rb.buffered :=
  (shape h).2.1

theorem buffered_add_available {rb : Ring α} (h : rb.WF) :
    rb.buffered + rb.available = rb.size :=
  (shape h).2.2.1

theorem of_shape {buf : List α} {size r w k : Nat} (hl : buf.length = size) (hr : r < size)
    (hk : 0 < k) (hks : k ≤ size) (hw : (r + k) % size = w) :
    (⟨buf, size, r, w, false⟩ : Ring α).WF ∧
    (⟨buf, size, r, w, false⟩ : Ring α).abs = win buf r k := by
  have hm := mod_wrap (r + k) size (by omega)
  have hwf : (⟨buf, size, r, w, false⟩ : Ring α).WF :=
    ⟨hl, .inr hr, .inr (hw ▸ hm.1), nofun, fun h => by simp only at h; omega⟩
  have hlay := (lay hwf rfl).2
  simp only at hlay
  exact ⟨hwf, (abs_eq_win hwf).trans (by congr 1; omega)⟩

theorem free {rb : Ring α} (h : rb.WF) (hf : 0 < rb.available) :
    rb.r < rb.size ∧ rb.w < rb.size ∧
    (rb.r ≤ rb.w ∧ rb.size - rb.w + rb.r = rb.available ∨
     rb.w < rb.r ∧ rb.r - rb.w = rb.available) := by
  cases he : rb.isEmpty
  · obtain ⟨-, ⟨c, hw, -, ha⟩ | ⟨c, hr, -, ha⟩⟩ := lay h he
    · exact ⟨Nat.lt_trans c hw, hw, .inl ⟨Nat.le_of_lt c, ha⟩⟩
    · have c : rb.w < rb.r := by omega
      exact ⟨hr, Nat.lt_trans c hr, .inr ⟨c, ha⟩⟩
  · obtain ⟨h1, h2⟩ := h.empty_zero he
    simpa [Ring.available, he, h1, h2] using hf

theorem empty_spec {buf : List α} {size : Nat} (hl : buf.length = size) :
    (⟨buf, size, 0, 0, true⟩ : Ring α).WF ∧ (⟨buf, size, 0, 0, true⟩ : Ring α).abs = [] :=
  ⟨⟨hl, by simp only; omega, by simp only; omega, fun _ => ⟨rfl, rfl⟩, fun _ => rfl⟩,
    rfl⟩

theorem reset_spec (rb : Ring α) (h : rb.WF) : rb.reset.WF ∧ rb.reset.abs = [] :=
  empty_spec h.len_eq

theorem buffered_eq {rb : Ring α} (h : rb.WF) : rb.buffered = rb.abs.length := by
  have := shape h
  rw [abs_eq_win h, length_win]; omega

theorem length_add_available {rb : Ring α} (h : rb.WF) : rb.abs.length + rb.available = rb.size :=
  buffered_eq h ▸ buffered_add_available h

theorem isEmpty_iff {rb : Ring α} (h : rb.WF) : rb.isEmpty = true ↔ rb.abs = [] := by
  rw [← List.length_eq_zero_iff, ← buffered_eq h]
  obtain ⟨_, _, _, _, ⟨he, _, hb⟩ | ⟨he, _, hb⟩⟩ := shape h
  · simp [he, hb]
  · simp [he]; omega

end Gnet.Proofs.Ring
