/-
  C10: `elastic.RingBuffer` and `elastic.Buffer` refine the FIFO specification `ElasticFifo`,
  one operation and whole runs.
-/
import Gnet.Proofs.ElasticBuffer
import Gnet.Proofs.Simulation
namespace Gnet.Proofs.Elastic
open Gnet
variable {α : Type} [Inhabited α]

theorem ering_step_refines (gen : Nat → α) (b : ERing α) (pos : Nat) (op : ElasticFifo.Op α)
    (h : b.WF) :
    (ERing.step gen (b, pos) op).1.1.WF ∧
    ElasticFifo.Step gen (b.abs, pos) op
      ((ERing.step gen (b, pos) op).1.1.abs, (ERing.step gen (b, pos) op).1.2)
      (ERing.step gen (b, pos) op).2 := by
  cases op with
  | write p =>
    have ⟨h1, h2⟩ := write_spec b p h
    simp only [ERing.step, h2]
    exact ⟨h1, .write ..⟩
  | writeByte c =>
    have ⟨h1, h2⟩ := writeByte_spec b c h
    simp only [ERing.step, h2]
    exact ⟨h1, .writeByte ..⟩
  | writev bs =>
    have ⟨h1, h2⟩ := write_spec b bs.flatten h
    simp only [ERing.step, h2]
    exact ⟨h1, .writev ..⟩
  | read n =>
    have ⟨h1, h2, h3, _⟩ := read_spec b n h
    simp only [ERing.step, h2, h3, List.length_take]
    exact ⟨h1, .read ..⟩
  | readByte =>
    have ⟨h1, h2, h3, h4⟩ := readByte_spec b h
    simp only [ERing.step, h2, h3, List.length_take]
    exact ⟨h1, .readByte _ _ _ h4.resolve_right⟩
  | peek n =>
    simp only [ERing.step, peek_spec b n h]
    refine ⟨h, ?_⟩
    by_cases hn : n ≤ 0
    · rw [if_pos hn]
      exact .peekAll _ _ n _ (.inl hn) (.inl rfl)
    · have h0 : 0 < n := Int.lt_of_not_ge hn
      rw [if_neg hn]
      by_cases hm : n = (ElasticFifo.maxInt32 : Int)
      · rw [hm, Int.toNat_natCast]
        exact .peekAll _ _ _ _ (.inr rfl) (.inr rfl)
      · by_cases hle : n.toNat ≤ b.abs.length
        · rw [List.length_take, Nat.min_eq_left hle]
          exact .peek _ _ n h0 hm hle
        · have hlt := Nat.lt_of_not_le hle
          rw [List.take_of_length_le (Nat.le_of_lt hlt)]
          exact .peekShort _ _ n _ _ h0 hm hlt (.inr rfl)
  | discard n =>
    have ⟨h1, h2, h3, _⟩ := discard_spec b n h
    simp only [ERing.step, h2, h3]
    exact ⟨h1, .discard ..⟩
  | bytes =>
    simp only [ERing.step, bytes_spec b h]
    exact ⟨h, .bytes _ _ _ (.inl rfl)⟩
  | readFrom sc =>
    have ⟨h1, h2, h3, h4⟩ := readFrom_spec gen b pos sc h
    simp only [ERing.step, h2, h3]
    exact ⟨h1, .readFrom _ _ _ _ _ h4⟩
  | writeTo sc =>
    have ⟨h1, h2, h3, h4, h5⟩ := writeTo_spec b sc h
    simp only [ERing.step, h2, h3]
    exact ⟨h1, .writeTo _ _ _ _ _ h4 h5⟩
  | reset ms =>
    have ⟨h1, h2⟩ := reset_spec b h
    simp only [ERing.step, h2]
    exact ⟨h1, .reset ..⟩
  | release =>
    have ⟨h1, h2⟩ := doneAll_spec b
    simp only [ERing.step, h2]
    exact ⟨h1, .release ..⟩

theorem ering_run_refines_from (gen : Nat → α) (ops : List (ElasticFifo.Op α))
    (s : ERing α × Nat) (h : s.1.WF) :
    (ERing.run gen s ops).1.1.WF ∧
    ElasticFifo.Run gen (s.1.abs, s.2) ops (ERing.run gen s ops).2
      ((ERing.run gen s ops).1.1.abs, (ERing.run gen s ops).1.2) :=
  run_refines_of_step (ERing.step gen) (ERing.run gen) (Inv := fun s => s.1.WF)
    (abs := fun s => (s.1.abs, s.2)) (fun _ => rfl) (fun _ _ _ => rfl) ElasticFifo.Run.nil
    ElasticFifo.Run.cons (fun s => ering_step_refines gen s.1 s.2) ops s h

theorem elastic_step_refines (gen : Nat → α) (m : Elastic α) (pos : Nat) (op : ElasticFifo.Op α)
    (h : m.WF) :
    (Elastic.step gen (m, pos) op).1.1.WF ∧
    ElasticFifo.Step gen (m.abs, pos) op
      ((Elastic.step gen (m, pos) op).1.1.abs, (Elastic.step gen (m, pos) op).1.2)
      (Elastic.step gen (m, pos) op).2 := by
  cases op with
  | write p =>
    have ⟨h1, h2⟩ := elastic_write_spec m p h
    simp only [Elastic.step, h2]
    exact ⟨h1, .write ..⟩
  | writeByte c =>
    have ⟨h1, h2⟩ := elastic_write_spec m [c] h
    simp only [Elastic.step, h2]
    exact ⟨h1, .writeByte ..⟩
  | writev bs =>
    have ⟨h1, h2, h3⟩ := elastic_writev_spec m bs h
    simp only [Elastic.step, h2, h3]
    exact ⟨h1, .writev ..⟩
  | read n =>
    have ⟨h1, h2, h3, _⟩ := elastic_read_spec m n h
    simp only [Elastic.step, h2, h3, List.length_take]
    exact ⟨h1, .read ..⟩
  | readByte =>
    have ⟨h1, h2, h3, h4⟩ := elastic_read_spec m 1 h
    simp only [Elastic.step, h2, h3, List.length_take]
    exact ⟨h1, .readByte _ _ _ fun hne => h4 Nat.one_pos (List.length_pos_iff.mpr hne)⟩
  | peek n =>
    have hp := elastic_peek_spec m n h
    simp only [Elastic.step]
    refine ⟨h, ?_⟩
    by_cases hn : n ≤ 0 ∨ n = (Elastic.maxInt32 : Int)
    · rw [if_pos hn] at hp
      rw [hp.1, hp.2]
      exact .peekAll _ _ n _ hn (.inr rfl)
    · have h0 : 0 < n := Int.lt_of_not_ge fun hc => hn (.inl hc)
      have hm : n ≠ (Elastic.maxInt32 : Int) := fun hc => hn (.inr hc)
      rw [if_neg hn] at hp
      by_cases hlt : m.abs.length < n.toNat
      · rw [if_pos hlt] at hp
        rw [hp]
        exact .peekShort _ _ n _ _ h0 hm hlt (.inl rfl)
      · have hle := Nat.le_of_not_lt hlt
        rw [if_neg hlt] at hp
        rw [hp.1, hp.2, List.length_take, Nat.min_eq_left hle]
        exact .peek _ _ n h0 hm hle
  | discard n =>
    have ⟨h1, h2, h3⟩ := elastic_discard_spec m n h
    simp only [Elastic.step, h2, h3]
    exact ⟨h1, .discard ..⟩
  | bytes =>
    have hp := elastic_peek_spec m 0 h
    rw [if_pos (.inl (Int.le_refl 0))] at hp
    simp only [Elastic.step, hp.2]
    exact ⟨h, .bytes _ _ _ (.inr rfl)⟩
  | readFrom sc =>
    have ⟨h1, h2, h3, h4⟩ := elastic_readFrom_spec gen m pos sc h
    simp only [Elastic.step, h2, h3]
    exact ⟨h1, .readFrom _ _ _ _ _ h4⟩
  | writeTo sc =>
    have ⟨h1, h2, h3, h4, h5⟩ := elastic_writeTo_spec m sc h
    simp only [Elastic.step, h2, h3]
    exact ⟨h1, .writeTo _ _ _ _ _ h4 h5⟩
  | reset ms =>
    have ⟨h1, h2⟩ := elastic_reset_spec m ms h
    simp only [Elastic.step, h2]
    exact ⟨h1, .reset ..⟩
  | release =>
    have ⟨h1, h2⟩ := elastic_release_spec m
    simp only [Elastic.step, h2]
    exact ⟨h1, .release ..⟩

theorem elastic_run_refines_from (gen : Nat → α) (ops : List (ElasticFifo.Op α))
    (s : Elastic α × Nat) (h : s.1.WF) :
    (Elastic.run gen s ops).1.1.WF ∧
    ElasticFifo.Run gen (s.1.abs, s.2) ops (Elastic.run gen s ops).2
      ((Elastic.run gen s ops).1.1.abs, (Elastic.run gen s ops).1.2) :=
  run_refines_of_step (Elastic.step gen) (Elastic.run gen) (Inv := fun s => s.1.WF)
    (abs := fun s => (s.1.abs, s.2)) (fun _ => rfl) (fun _ _ _ => rfl) ElasticFifo.Run.nil
    ElasticFifo.Run.cons (fun s => elastic_step_refines gen s.1 s.2) ops s h

end Gnet.Proofs.Elastic
