import Gnet.Proofs.RingRead
import Gnet.Proofs.Fresh
import Gnet.Proofs.Bits
/-
  The producing operations: make room (`grow`), then copy to `w`: `push`.
-/
set_option linter.unusedSectionVars false
namespace Gnet.Proofs.Ring
open Gnet
variable {α : Type} [Inhabited α]

theorem growLoop_ge (n c : Nat) (h : 4 ≤ n) : c ≤ Ring.growLoop n c ∧ n ≤ Ring.growLoop n c := by
  fun_induction Ring.growLoop n c with
  | case1 n h' ih => have := ih (by omega); omega
  | case2 n h' => omega

theorem le_growCap (size c : Nat) : c ≤ Ring.growCap size c := by
  unfold Ring.growCap
  -- the guard of `growLoop`, read off `Facts`
  have hT : 4 ≤ Ring.bufferGrowThreshold := by decide
  split
  · split
    · omega
    · exact Nat.le_trans (Nat.le_max_left c 2) (Bits.le_ceilPow2 c)
  · simp only
    split
    · split
      · omega
      · exact (growLoop_ge size c (by omega)).1
    · omega

theorem grow_spec (rb : Ring α) (c : Nat) (h : rb.WF) (hc : rb.size < c) :
    (rb.grow c).WF ∧ (rb.grow c).abs = rb.abs ∧ c ≤ (rb.grow c).size ∧
    rb.readSafe (Ring.growCap rb.size c) = true := by
  have hnc := le_growCap rb.size c
  have hlen := length_add_available h
  -- the `Read` inside `grow` asks for at least `size` elements: it returns everything
  obtain ⟨hsafe, hwf, habs, hdata, _⟩ := read_spec rb (Ring.growCap rb.size c) h
  rw [List.take_of_length_le (by omega)] at hdata
  have hemp := (isEmpty_iff hwf).mpr (habs.trans (List.drop_of_length_le (by omega)))
  simp only [Ring.grow, hdata, hemp, buffered_eq h]
  generalize Ring.growCap rb.size c = nc at hnc hsafe ⊢
  generalize rb.abs = a at hlen ⊢
  -- regrouped so that what is left is the pair `WF ∧ abs = _` that `of_shape` and `empty_spec`
  -- return
  refine and_assoc.mp ⟨?_, hnc, hsafe⟩
  by_cases h0 : 0 < a.length
  · rw [if_pos h0]
    refine (of_shape (k := a.length) (by simp; omega) (by omega) h0 (by omega)
      (by rw [Nat.zero_add, Nat.mod_eq_of_lt (by omega)])).imp_right fun ha => ?_
    rw [ha, win_of_le (by simp), List.drop_zero, List.take_left' rfl]
  · rw [if_neg h0, List.length_eq_zero_iff.mp (Nat.eq_zero_of_not_pos h0)]
    exact empty_spec (by simp)

/-- `Write`, `WriteByte` and `ReadFrom` begin by making room for `k` elements; `rb1` is the state
    they continue with -/
theorem room_spec {rb rb1 : Ring α} {k c : Nat} (h : rb.WF)
    (hc : rb.available < k → rb.buffered + k ≤ c)
    (hrb1 : (if rb.available < k then rb.grow c else rb) = rb1) :
    rb1.WF ∧ rb1.abs = rb.abs ∧ k ≤ rb1.available ∧
    (if rb.available < k then rb.readSafe (Ring.growCap rb.size c) else true) = true := by
  have hba := buffered_add_available h
  subst hrb1
  by_cases hg : rb.available < k
  · have hcg := hc hg
    obtain ⟨h1, h2, h3, h4⟩ := grow_spec rb c h (by omega)
    have := length_add_available h1
    simp only [hg, if_true]
    exact ⟨h1, h2, by rw [h2, ← buffered_eq h] at this; omega, h4⟩
  · simp only [hg, if_false]
    exact ⟨h, trivial, by omega, trivial⟩

def push (rb : Ring α) (p : List α) : Ring α :=
  ⟨blit rb.buf rb.w p, rb.size, rb.r, (rb.w + p.length) % rb.size, false⟩

theorem push_spec (rb : Ring α) (p : List α) (h : rb.WF) (hp : 0 < p.length)
    (hfit : p.length ≤ rb.available) (hc : rb.w + p.length ≤ rb.size) :
    (push rb p).WF ∧ (push rb p).abs = rb.abs ++ p := by
  obtain ⟨hl, habs, hba, hw, hs⟩ := shape h
  have hr : rb.r < rb.size := by omega
  have hl' := length_blit rb.buf p rb.w (by omega)
  refine (of_shape (k := rb.buffered + p.length) (hl'.trans hl) hr (Nat.add_pos_right _ hp)
    (by omega) (by rw [← Nat.add_assoc, ← Nat.mod_add_mod, hw])).imp_right fun habs' => ?_
  -- the new window is the old one, which the copy does not touch, followed by the copied region
  have hm := mod_wrap (rb.r + rb.buffered) rb.size (by omega)
  rw [push, habs', win_add, win_blit (hl ▸ hc) (by omega) (by omega), habs,
    win_mod (r := rb.r + rb.buffered) (by omega), hl', hl, hw, win_blit_self (hl ▸ hc)]

theorem push_push_spec (rb : Ring α) (p1 p2 : List α) (h : rb.WF) (h1 : 0 < p1.length)
    (h2 : 0 < p2.length) (hend : rb.w + p1.length = rb.size)
    (hfit : p1.length + p2.length ≤ rb.available) :
    (push (push rb p1) p2).WF ∧ (push (push rb p1) p2).abs = rb.abs ++ (p1 ++ p2) := by
  obtain ⟨hwf, habs⟩ := push_spec rb p1 h h1 (by omega) (by omega)
  have hav : _ = rb.size := length_add_available (rb := push rb p1) hwf
  rw [habs, List.length_append, ← buffered_eq h] at hav
  have := buffered_add_available h
  have hw : (push rb p1).w = 0 := by rw [push, hend, Nat.mod_self]
  obtain ⟨hwf', habs'⟩ := push_spec _ p2 hwf h2 (by omega) (by rw [hw]; show 0 + _ ≤ rb.size; omega)
  exact ⟨hwf', by rw [habs', habs, List.append_assoc]⟩

/-- `if w == size { w = 0 }; isEmpty = false`, the end of `Write` and `WriteByte` -/
theorem wrap_w {b : List α} {size r w : Nat} {e : Bool} (hw : w ≤ size) :
    ({ (if w = size then (⟨b, size, r, 0, e⟩ : Ring α) else ⟨b, size, r, w, e⟩) with
        isEmpty := false } : Ring α) =
      ⟨b, size, r, w % size, false⟩ := by
  rw [← wrap_eq_mod hw]; split <;> rfl

theorem write_eq {rb rb1 : Ring α} {p : List α} (hn : p.length ≠ 0)
    (hrb1 : (if p.length > rb.available then rb.grow (rb.size + p.length - rb.available)
      else rb) = rb1)
    (h : rb1.WF) (hfit : p.length ≤ rb1.available) :
    rb.write p = if rb1.w + p.length ≤ rb1.size then push rb1 p
      else push (push rb1 (p.take (rb1.size - rb1.w))) (p.drop (rb1.size - rb1.w)) := by
  obtain ⟨hr, hw, hf⟩ := free h (by omega)
  by_cases hc : rb1.w + p.length ≤ rb1.size
  · have c2 : p.length ≤ rb1.size - rb1.w := by omega
    simp only [Ring.write, hn, if_false, hrb1, ge_iff_le, c2, if_true, ite_self]
    rw [if_pos hc, wrap_w hc]; rfl
  · -- here `r ≤ w`: with the content wrapped the free space is one piece
    have c1 : rb1.r ≤ rb1.w := by omega
    have c2 : ¬ p.length ≤ rb1.size - rb1.w := by omega
    simp only [Ring.write, hn, if_false, hrb1, ge_iff_le, c1, c2, if_true]
    rw [if_neg hc, wrap_w (by omega), push, push, List.length_take, List.length_drop,
      Nat.min_eq_left (by omega), Nat.add_sub_cancel' (by omega), Nat.mod_self, Nat.zero_add]

theorem write_spec (rb : Ring α) (p : List α) (h : rb.WF) :
    rb.writeSafe p = true ∧ (rb.write p).WF ∧ (rb.write p).abs = rb.abs ++ p := by
  by_cases hn : p.length = 0
  · simp [Ring.writeSafe, Ring.write, h, List.length_eq_zero_iff.mp hn]
  have hba := buffered_add_available h
  simp only [Ring.writeSafe, hn, if_false, gt_iff_lt]
  generalize hrb1 : (if rb.available < p.length then rb.grow (rb.size + p.length - rb.available)
    else rb) = rb1
  obtain ⟨h1, habs1, hfit1, hsafe⟩ := room_spec h (by omega) hrb1
  obtain ⟨hr, hw, hf⟩ := free h1 (by omega)
  have hl := h1.len_eq
  rw [write_eq hn hrb1 h1 hfit1, ← habs1, hsafe]
  refine ⟨by simp; omega, ?_⟩
  split
  next hc => exact push_spec rb1 p h1 (by omega) hfit1 hc
  next hc =>
    have := push_push_spec rb1 (p.take (rb1.size - rb1.w)) (p.drop (rb1.size - rb1.w)) h1
      (by simp; omega) (by simp; omega) (by simp; omega) (by simp; omega)
    rwa [List.take_append_drop] at this

theorem writeByte_spec (rb : Ring α) (c : α) (h : rb.WF) :
    rb.writeByteSafe c = true ∧ (rb.writeByte c).WF ∧ (rb.writeByte c).abs = rb.abs ++ [c] := by
  have hba := buffered_add_available h
  simp only [Ring.writeByteSafe, Ring.writeByte]
  generalize hrb1 : (if rb.available < 1 then rb.grow (rb.size + 1) else rb) = rb1
  obtain ⟨h1, habs1, hfit1, hsafe⟩ := room_spec h (by omega) hrb1
  obtain ⟨_, hw, _⟩ := free h1 hfit1
  have hl := h1.len_eq
  have hp := push_spec rb1 [c] h1 Nat.one_pos hfit1 hw
  rw [push, List.length_singleton] at hp
  rw [hsafe, ← habs1, set_eq_blit (by omega)]
  refine ⟨by simp; omega, ?_⟩
  rwa [wrap_w (by omega)]

theorem rfStep_spec (gen : Nat → α) (rb : Ring α) (pos : Nat) (st : RStep) (h : rb.WF) :
    rb.rfStepSafe = true ∧ (Ring.rfStep gen rb pos st).1.WF ∧
    (Ring.rfStep gen rb pos st).1.abs =
      rb.abs ++ Fifo.fresh gen pos (Ring.rfStep gen rb pos st).2 := by
  simp only [Ring.rfStepSafe, Ring.rfStep]
  generalize hrb1 : (if rb.available < Ring.MinRead then rb.grow (rb.buffered + Ring.MinRead)
    else rb) = rb1
  obtain ⟨h1, habs1, hfit1, hsafe⟩ := room_spec h (fun _ => Nat.le_refl _) hrb1
  obtain ⟨hr, hw, hf⟩ := free h1 (Nat.lt_of_lt_of_le (by decide) hfit1)
  have hl := h1.len_eq
  -- `m` bytes arrive: no more than the free space holds before it ends or meets `r`
  obtain ⟨m, hm, hfit, hc⟩ : ∃ m,
      min st.k (if rb1.w ≥ rb1.r then rb1.size - rb1.w else rb1.r - rb1.w) = m ∧
      m ≤ rb1.available ∧ rb1.w + m ≤ rb1.size := ⟨_, rfl, by split <;> omega⟩
  rw [hm, hsafe, ← habs1]
  refine ⟨by simp; omega, ?_⟩
  obtain rfl | hm0 := Nat.eq_zero_or_pos m
  · simpa [blit, Nat.mod_eq_of_lt (show rb1.w < rb1.size by omega)] using h1
  · have hp := push_spec rb1 (Fifo.fresh gen pos m) h1 (by simpa using hm0)
      (by simpa using hfit) (by simpa using hc)
    rw [if_pos hm0]
    rwa [push, Fifo.fresh_length] at hp

theorem readFrom_spec (gen : Nat → α) (sc : List RStep) : ∀ (rb : Ring α) (pos n : Nat), rb.WF →
    rb.readFromSafe gen pos sc = true ∧ (rb.readFrom gen pos n sc).1.WF ∧
    ∃ m, (rb.readFrom gen pos n sc).2.1 = n + m ∧ (rb.readFrom gen pos n sc).2.2.2 = pos + m ∧
      (rb.readFrom gen pos n sc).1.abs = rb.abs ++ Fifo.fresh gen pos m ∧
      (rb.readFrom gen pos n sc).2.2.1 ≠ .eof := by
  induction sc with
  | nil =>
    intro rb pos n h
    obtain ⟨h1, h2, h3⟩ := rfStep_spec gen rb pos ⟨0, .eof⟩ h
    exact ⟨h1, h2, _, rfl, rfl, h3, nofun⟩
  | cons st rest ih =>
    intro rb pos n h
    obtain ⟨h1, h2, h3⟩ := rfStep_spec gen rb pos st h
    simp only [Ring.readFromSafe, Ring.readFrom, h1, Bool.true_and]
    generalize Ring.rfStep gen rb pos st = x at h2 h3 ⊢
    obtain ⟨rb', k⟩ := x
    by_cases e2 : st.err = .nil
    · obtain ⟨i1, i2, m, i3, i4, i5, i6⟩ := ih rb' (pos + k) (n + k) h2
      simp only [e2, if_false, ne_eq, reduceCtorEq, not_true_eq_false]
      refine ⟨i1, i2, k + m, ?_, ?_, ?_, i6⟩
      · rw [i3]; omega
      · rw [i4]; omega
      · rw [i5, h3, Fifo.fresh_add, List.append_assoc]
    · simp only [e2, ne_eq, not_false_eq_true, if_true]
      split
      · exact ⟨trivial, h2, _, rfl, rfl, h3, nofun⟩
      · exact ⟨trivial, h2, _, rfl, rfl, h3, ‹_›⟩

end Gnet.Proofs.Ring
