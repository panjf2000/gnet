/-
  The lifecycle side of the reactor as the properties state it: `lifecycle` is C04, `fd_discipline` C07,
  `udp_one_event` C08; `fault_isolation`, `close_isolation` (both from `frame_lookup`) and
  `read_error_closes` are C18.
-/
import Gnet.Spec.ReactorSpec
import Gnet.Proofs.ReactorLifeRound
namespace Gnet.Proofs.ReactorLife
open Gnet.Reactor Gnet.Proofs.ReactorL

theorem acceptRound_K (G : Prop) (s s' : RState) (toks : List Tok) (hn : NamesNodup s)
    (h : acceptRound s toks = .ok s') (hl : InvLife s) (hf : G → InvFd s) :
    InvLife s' ∧ NamesNodup s' ∧ (G → InvFd s') := by
  have hk : K G s'.conns s'.sysLog := (K_round G).acceptRound h ⟨⟨fun c x hx => hl _ (lookup_mem hx), hf⟩, hn⟩
  exact ⟨fun p hp => hk.j.inv p.1 p.2 (mem_lookup hk.nd hp), hk.nd, hk.j.fd⟩

theorem lifecycle (s s' : RState) (toks : List Tok) (hn : NamesNodup s)
    (h : acceptRound s toks = .ok s') (hl : InvLife s) : InvLife s' :=
  (acceptRound_K False s s' toks hn h hl (fun g => g.elim)).1

theorem lifecycle_init (cfg : Cfg) : InvLife { cfg := cfg } := by
  intro p hp; cases hp

theorem fd_discipline (s s' : RState) (toks : List Tok) (hn : NamesNodup s)
    (h : acceptRound s toks = .ok s') (hl : InvLife s) (hf : InvFd s) : InvFd s' :=
  (acceptRound_K True s s' toks hn h hl (fun _ => hf)).2.2 trivial

theorem frame_lookup (fuel : Nat) (w : Work) (c : String) (hw : target w = some c)
    (s s' : RState) (r : Ret) (h : (exec fuel w).run s = .ok (r, s')) (c' : String) (hc : c' ≠ c) :
    lookup s' c' = lookup s c' :=
  wp_elim (frame_gen c (fun cs => lookupL cs c' = lookupL s.conns c')
    (fun hl => by rw [lookupL_updL_other _ _ _ _ hc]; exact hl) fuel w hw s rfl) h

theorem fault_isolation (fuel : Nat) (c : String) (mask : Nat) (s s' : RState) (r : Ret)
    (h : (exec fuel (.processIO c mask)).run s = .ok (r, s')) (c' : String) (hc : c' ≠ c) :
    lookup s' c' = lookup s c' :=
  frame_lookup fuel _ c rfl s s' r h c' hc

theorem close_isolation (fuel : Nat) (c : String) (en : Bool) (s s' : RState) (r : Ret)
    (h : (exec fuel (.close c en)).run s = .ok (r, s')) (c' : String) (hc : c' ≠ c) :
    lookup s' c' = lookup s c' :=
  frame_lookup fuel _ c rfl s s' r h c' hc

-- `hn` is not needed: `lookup` and the model both see the first entry of a name
set_option linter.unusedVariables false in
theorem read_error_closes (fuel : Nat) (c : String) (s s' : RState) (r : Ret) (rest : List Tok)
    (len : Nat) (n : Int) (err : String) (data : List Nat) (x : Conn)
    (hx : lookup s c = some x) (ho : x.opened = true) (hr : x.registered = true) (hn : NamesNodup s)
    (ht : s.toks = .enter "read" c "" :: .sysRead c len n err data :: rest)
    (he : err ≠ "nil") (he2 : err ≠ "EAGAIN")
    (h : (exec fuel (.elRead c)).run s = .ok (r, s')) :
    ∃ x', lookup s' c = some x' ∧ x'.opened = false ∧ x'.registered = false ∧ x'.fdOpen = false ∧
      x'.word = x.word ++ ["close"] ∧ x'.closeErrNil = false := by
  have hx' : lookupL s.conns c = some x := hx
  suffices hw : wp (exec fuel (.elRead c))
      (fun _ s' =>
        PA (fun _ => True) False c ⟨false, false, false, x.word ++ ["close"], false⟩ s'.conns s'.sysLog) s by
    obtain ⟨x', h1, h2⟩ := (wp_elim hw h).ent
    simp only [core, Core.mk.injEq] at h2
    exact ⟨x', h1, h2.1, h2.2.1, h2.2.2.1, h2.2.2.2.1, h2.2.2.2.2⟩
  -- `elRead` finds `c` opened, `elReadLoop` pops the failing read and calls `close`
  obtain _ | fuel := fuel
  · exact exec_zero _ _ _
  refine wp_get_bind ?_
  refine wp_enter_bind fun _ rest1 ht1 => ?_
  refine wp_getConn_bind fun x1 hx1 => ?_
  obtain rfl : x = x1 := Option.some.inj (hx'.symm.trans hx1)
  obtain rfl : .sysRead c len n err data :: rest = rest1 := (List.cons.inj (ht.symm.trans ht1)).2
  refine wp_if (fun hb => absurd ho (by simpa using hb)) fun _ => ?_
  obtain _ | fuel := fuel
  · exact exec_zero _ _ _
  refine wp_get_bind ?_
  refine wp_noteSys_bind fun _ _ => ?_
  refine wp_pop_bind fun t _ ht2 _ => ?_
  cases ht2
  refine wp_guard fun _ => ?_
  refine wp_if (fun _ => wp_if (fun hb => absurd (by simpa using hb) he2) fun _ => ?_)
    fun hb => absurd (by simpa using hb) (not_and_of_not_left _ (not_not_intro he))
  refine wp_mono (close_spec (P := fun _ => True) id False false fuel _ nofun nofun trivial) ?_
  rintro _ s1 ⟨x0, h0, hA⟩
  obtain rfl : x = x0 := Option.some.inj (hx'.symm.trans h0)
  rwa [show closed x false = _ from if_pos ⟨ho, hr⟩] at hA

theorem udp_one_event (fuel : Nat) (l : String) (s s' : RState) (r : Ret) (rest : List Tok)
    (n : Int) (src : String) (data : List Nat) (t : Tok)
    (ht : s.toks = .sysRecvfrom l n "nil" src data :: t :: rest)
    (h : (exec fuel (.readUDP l)).run s = .ok (r, s')) :
    ∃ en, t = .cb "OnTraffic" l data.length en src := by
  suffices hw : wp (exec fuel (.readUDP l)) (fun _ _ => ∃ en, t = .cb "OnTraffic" l data.length en src) s from
    wp_elim hw h
  obtain _ | fuel := fuel
  · exact exec_zero _ _ _
  refine wp_get_bind ?_
  refine wp_pop_bind fun _ _ e _ => ?_
  obtain ⟨rfl, rfl⟩ := List.cons.inj (ht.symm.trans e)
  refine wp_guard fun _ => wp_if (fun hh => absurd hh (by simp)) fun _ => ?_
  refine wp_modify_bind ?_
  refine wp_pop_bind fun t1 _ e _ => ?_
  cases e
  msplit
  refine wp_guard fun h1 => wp_guard fun h2 => wp_guard fun h3 => wp_post fun _ _ => ?_
  simp only [bne_iff_ne, ne_eq, Decidable.not_not] at h1 h2 h3
  exact ⟨_, by rw [h1, h2, h3]⟩

end Gnet.Proofs.ReactorLife
