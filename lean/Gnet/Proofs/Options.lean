import Gnet.Model.Options
import Gnet.Proofs.Arith
/-
  C16: the four capacity switches are one function with the closed form `norm_eq`; every leaf of
  `determineEventLoops` is `cap256` of a candidate.
-/
namespace Gnet.Proofs.Options
open Gnet Gnet.Options Gnet.Proofs.Arith

theorem norm_eq (x mx : BitVec 64) : Gen.normReadCapServer x mx =
    if x.toInt ≤ 0 then some mx else if x.toInt ≤ 1024 then some 1024#64
    else Gen.CeilToPowerOfTwo x := by
  simp only [Gen.normReadCapServer, BitVec.sle_iff_toInt_le, BitVec.reduceToInt]

theorem norm_read_cap_server (x : BitVec 64) :
    (x.toInt ≤ 0 → Gen.normReadCapServer x 65536#64 = some 65536#64) ∧
    (0 < x.toInt → x.toInt ≤ 1024 → Gen.normReadCapServer x 65536#64 = some 1024#64) ∧
    (1024 < x.toInt → x.toInt ≤ 2 ^ 62 → ∃ r, Gen.normReadCapServer x 65536#64 = some r ∧
        Proofs.Arith.IsPow2 r.toInt ∧ x.toInt ≤ r.toInt ∧ 1024 ≤ r.toInt ∧
        ∀ p : Int, Proofs.Arith.IsPow2 p → x.toInt ≤ p → r.toInt ≤ p) ∧
    (2 ^ 62 < x.toInt → Gen.normReadCapServer x 65536#64 = none) := by
  rw [norm_eq]
  refine ⟨fun h => if_pos h, fun h1 h2 => by rw [if_neg (by omega), if_pos h2], fun h1 h2 => ?_,
    fun h => ?_⟩
  · rw [if_neg (by omega), if_neg (by omega)]
    obtain ⟨r, hr, hpow, hle, hmin⟩ := ceil_spec x h2
    exact ⟨r, hr, hpow, by omega, by omega, fun p hp hxp => hmin p hp (by omega)⟩
  · rw [if_neg (by omega), if_neg (by omega)]
    exact (ceil_panics x).2 h

theorem norm_caps_agree (x mx : BitVec 64) :
    Gen.normWriteCapServer x mx = Gen.normReadCapServer x mx ∧
    Gen.normReadCapClient x mx = Gen.normReadCapServer x mx ∧
    Gen.normWriteCapClient x mx = Gen.normReadCapServer x mx := ⟨rfl, rfl, rfl⟩

theorem chunk_spec (chunk : BitVec 64) (et : Bool) :
    (0 < chunk.toInt → chunk.toInt ≤ 2 ^ 62 → ∃ r, chunkNorm chunk et = some (r, true) ∧
        Gen.CeilToPowerOfTwo chunk = some r) ∧
    (chunk.toInt ≤ 0 → et = true → chunkNorm chunk et = some (1048576#64, true)) ∧
    (chunk.toInt ≤ 0 → et = false → chunkNorm chunk et = some (chunk, false)) := by
  unfold chunkNorm
  simp only [BitVec.slt_iff_toInt_lt, BitVec.reduceToInt]
  refine ⟨fun h1 h2 => ?_, fun h1 h2 => ?_, fun h1 h2 => ?_⟩
  · have hr := ceil_eq chunk h2
    exact ⟨_, by rw [if_pos h1, hr]; rfl, hr⟩
  · subst h2; rw [if_neg (by omega)]; rfl
  · subst h2; rw [if_neg (by omega)]; rfl

theorem cap256 (v : BitVec 64) :
    ∃ r, (if 256 < v.toInt then some 256#64 else some v) = some r ∧ r.toInt = min v.toInt 256 := by
  by_cases h : 256 < v.toInt
  · exact ⟨_, if_pos h, by rw [show (256#64).toInt = 256 from rfl]; omega⟩
  · exact ⟨_, if_neg h, by omega⟩

theorem evloops_spec (mc : Bool) (nel ncpu : BitVec 64) (hcpu : 1 ≤ ncpu.toInt) :
    ∃ r, Gen.determineEventLoops mc nel ncpu = some r ∧ 1 ≤ r.toInt ∧ r.toInt ≤ 256 ∧
      (0 < nel.toInt → r.toInt = min nel.toInt 256) ∧
      (nel.toInt ≤ 0 → mc = true → r.toInt = min ncpu.toInt 256) ∧
      (nel.toInt ≤ 0 → mc = false → r.toInt = 1) := by
  have e1 : (1#64).toInt = 1 := rfl
  have e256 : (256#64).toInt = 256 := rfl
  simp only [Gen.determineEventLoops, BitVec.slt_iff_toInt_lt, BitVec.toInt_zero, e256]
  -- no `BitVec.reduceToInt` above: the leaf `cap256 1#64` needs `(1#64).toInt` as it stands;
  -- `omega` reads `e1`
  by_cases h : 0 < nel.toInt
  · rw [if_pos h, if_pos h, ite_self]
    obtain ⟨r, hr, e⟩ := cap256 nel
    exact ⟨r, hr, by omega, by omega, fun _ => e, by omega, by omega⟩
  · rw [if_neg h, if_neg h]
    cases mc
    · rw [if_neg Bool.false_ne_true]
      obtain ⟨r, hr, e⟩ := cap256 1#64
      exact ⟨r, hr, by omega, by omega, by omega, nofun, fun _ _ => by omega⟩
    · rw [if_pos rfl]
      obtain ⟨r, hr, e⟩ := cap256 ncpu
      exact ⟨r, hr, by omega, by omega, by omega, fun _ _ => e, nofun⟩

theorem dispatch_ip_eq (u : UrlParts) (he : u.err = false) (hs : u.scheme ∈ ipSchemes) :
    dispatch u = if u.host = "" ∨ u.path ≠ "" then .invalidAddress else .ok u.scheme u.host := by
  have h0 : u.scheme ≠ "" := by intro h; rw [h] at hs; revert hs; decide
  unfold dispatch
  rw [if_neg (by simp [he]), if_neg h0, if_pos hs]

theorem dispatch_unix_eq (u : UrlParts) (he : u.err = false) (hs : u.scheme = "unix") :
    dispatch u = if u.joined = "" then .invalidAddress else .ok u.scheme u.joined := by
  unfold dispatch
  rw [if_neg (by simp [he]), if_neg (by rw [hs]; decide), if_neg (by rw [hs]; decide), if_pos hs]

theorem dispatch_ip (u : UrlParts) (he : u.err = false) (hs : u.scheme ∈ ipSchemes)
    (hh : u.host ≠ "") (hp : u.path = "") : dispatch u = .ok u.scheme u.host := by
  rw [dispatch_ip_eq u he hs, if_neg fun h => h.elim hh (· hp)]

theorem dispatch_unix (u : UrlParts) (he : u.err = false) (hs : u.scheme = "unix") (hj : u.joined ≠ "") :
    dispatch u = .ok "unix" u.joined := by
  rw [dispatch_unix_eq u he hs, if_neg hj, hs]

theorem dispatch_errors (u : UrlParts) (he : u.err = false) :
    (u.scheme = "" → dispatch u = .invalidAddress) ∧
    (u.scheme ∈ ipSchemes → (u.host = "" ∨ u.path ≠ "") → dispatch u = .invalidAddress) ∧
    (u.scheme = "unix" → u.joined = "" → dispatch u = .invalidAddress) ∧
    (u.scheme ≠ "" → u.scheme ∉ ipSchemes → u.scheme ≠ "unix" →
      dispatch u = .unsupportedProtocol) := by
  refine ⟨fun h => ?_, fun hs hc => by rw [dispatch_ip_eq u he hs, if_pos hc],
    fun hs hj => by rw [dispatch_unix_eq u he hs, if_pos hj], fun h0 hs hu => ?_⟩
  · unfold dispatch; rw [if_neg (by simp [he]), if_pos h]
  · unfold dispatch; rw [if_neg (by simp [he]), if_neg h0, if_neg hs, if_neg hu]

theorem dispatch_total (u : UrlParts) :
    dispatch u = .urlError ∨ dispatch u = .invalidAddress ∨ dispatch u = .unsupportedProtocol ∨
    ∃ s e, dispatch u = .ok s e ∧ (s ∈ ipSchemes ∨ s = "unix") ∧ e ≠ "" := by
  by_cases he : u.err = true
  · exact .inl (by unfold dispatch; rw [if_pos he])
  have he : u.err = false := by simpa using he
  obtain ⟨e1, -, -, e4⟩ := dispatch_errors u he
  by_cases h0 : u.scheme = ""
  · exact .inr (.inl (e1 h0))
  by_cases hs : u.scheme ∈ ipSchemes
  · rw [dispatch_ip_eq u he hs]
    by_cases hc : u.host = "" ∨ u.path ≠ ""
    · exact .inr (.inl (if_pos hc))
    · exact .inr (.inr (.inr ⟨_, _, if_neg hc, .inl hs, fun h => hc (.inl h)⟩))
  by_cases hu : u.scheme = "unix"
  · rw [dispatch_unix_eq u he hu]
    by_cases hj : u.joined = ""
    · exact .inr (.inl (if_pos hj))
    · exact .inr (.inr (.inr ⟨_, _, if_neg hj, .inr hu, hj⟩))
  · exact .inr (.inr (.inl (e4 h0 hs hu)))

end Gnet.Proofs.Options
