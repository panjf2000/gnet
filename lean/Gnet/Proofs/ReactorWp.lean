/-
  A weakest-precondition calculus for the monad `M = StateT RState (Except String)` of the reactor
  model: the rules by which a goal `wp program Q s` is taken apart one statement at a time, and what it
  takes for an invariant to go through `round` and `acceptRound` (`RoundInv`).
-/
import Gnet.Spec.ReactorSpec
import Gnet.Proofs.ListFacts

abbrev Gnet.Reactor.Ok {α : Type} (m : Gnet.Reactor.M α) (s : Gnet.Reactor.RState) (a : α)
    (s' : Gnet.Reactor.RState) : Prop := m.run s = .ok (a, s')

namespace Gnet.Proofs.ReactorL
open Gnet.Reactor

def wp (m : M α) (Q : α → RState → Prop) (s : RState) : Prop :=
  ∀ a s', m.run s = .ok (a, s') → Q a s'

theorem wp_mono {m : M α} {Q Q' : α → RState → Prop} {s : RState}
    (h : wp m Q' s) (hq : ∀ a s', Q' a s' → Q a s') : wp m Q s :=
  fun a s' e => hq a s' (h a s' e)

theorem wp_elim {m : M α} {Q : α → RState → Prop} {s : RState} {a : α} {s' : RState}
    (h : wp m Q s) (e : m.run s = .ok (a, s')) : Q a s' := h a s' e

theorem wp_post {m : M α} {Q : α → RState → Prop} {s : RState} (h : ∀ a s', Q a s') : wp m Q s :=
  fun a s' _ => h a s'

theorem wp_and {m : M α} {Q1 Q2 : α → RState → Prop} {s : RState}
    (h1 : wp m Q1 s) (h2 : wp m Q2 s) : wp m (fun a s' => Q1 a s' ∧ Q2 a s') s :=
  fun a s' e => ⟨h1 a s' e, h2 a s' e⟩

def lookupL (l : List (String × Conn)) (c : String) : Option Conn := (l.find? (·.1 == c)).map (·.2)

def updL (l : List (String × Conn)) (c : String) (y : Conn) : List (String × Conn) :=
  l.map fun p => if p.1 == c then (c, y) else p

theorem lookup_eq (s : RState) (c : String) : lookup s c = lookupL s.conns c := rfl

theorem lookupL_nil (c : String) : lookupL [] c = none := rfl

theorem lookupL_cons (p : String × Conn) (l) (c : String) :
    lookupL (p :: l) c = if p.1 = c then some p.2 else lookupL l c := by
  unfold lookupL
  by_cases h : p.1 = c <;> simp [h]

theorem lookupL_updL_same (l : List (String × Conn)) (c : String) (y : Conn) :
    lookupL (updL l c y) c = (lookupL l c).map fun _ => y := by
  induction l with
  | nil => rfl
  | cons p l ih =>
    rw [updL, List.map_cons, ← updL]
    by_cases h : p.1 = c
    · simp [lookupL_cons, h]
    · simp [lookupL_cons, h, ih]

theorem lookupL_updL_other (l : List (String × Conn)) (c c' : String) (y : Conn) (h : c' ≠ c) :
    lookupL (updL l c y) c' = lookupL l c' := by
  induction l with
  | nil => rfl
  | cons p l ih =>
    rw [updL, List.map_cons, ← updL]
    by_cases h1 : p.1 = c
    · have h2 : ¬ c = c' := fun e => h e.symm
      have h3 : ¬ p.1 = c' := by rw [h1]; exact h2
      simp [lookupL_cons, h1, h2, ih]
    · simp [lookupL_cons, h1, ih]

theorem lookupL_updL_hit {l : List (String × Conn)} {c : String} {x y : Conn} (h : lookupL l c = some x) :
    lookupL (updL l c y) c = some y := by rw [lookupL_updL_same, h]; rfl

theorem names_updL (l : List (String × Conn)) (c : String) (y : Conn) :
    (updL l c y).map (·.1) = l.map (·.1) := by
  simp only [updL, List.map_map]
  congr 1; funext p
  by_cases h : p.1 = c <;> simp [h]

theorem mem_updL {l : List (String × Conn)} {c : String} {y : Conn} {p : String × Conn} (h : p ∈ updL l c y) :
    p = (c, y) ∨ (p.1 ≠ c ∧ p ∈ l) := by
  obtain ⟨q, hq, rfl⟩ := List.mem_map.mp h
  by_cases e : q.1 = c
  · exact .inl (by simp [e])
  · exact .inr (by simpa [e] using hq)

theorem lookupL_append (l1 l2 : List (String × Conn)) (c : String) :
    lookupL (l1 ++ l2) c = (lookupL l1 c).or (lookupL l2 c) := by
  simp only [lookupL, List.find?_append, Option.map_or]

theorem lookupL_filter_ne (cs : List (String × Conn)) (l c' : String) (h : c' ≠ l) :
    lookupL (cs.filter (fun x => x.1 != l)) c' = lookupL cs c' := by
  simp only [lookupL, List.find?_filter]
  congr 2; funext a
  by_cases e : a.1 = c' <;> simp [e, h]

theorem lookupL_filter_same (cs : List (String × Conn)) (l : String) :
    lookupL (cs.filter (fun x => x.1 != l)) l = none := by
  simp [lookupL, List.find?_filter]

theorem lookupL_append_fresh {cs : List (String × Conn)} {n : String} {y : Conn}
    (hn : (cs.any (fun x => x.1 == n)) = false) : lookupL (cs ++ [(n, y)]) n = some y := by
  rw [lookupL_append, lookupL, List.find?_eq_none.2 (List.any_eq_false.1 hn), lookupL_cons, if_pos rfl]
  rfl

/-- `ND s.conns` and `NamesNodup s` unfold to the same -/
def ND (cs : List (String × Conn)) : Prop := (cs.map (·.1)).Nodup

theorem ND_upd {cs : List (String × Conn)} {c : String} {y : Conn} (h : ND cs) : ND (updL cs c y) := by
  unfold ND; rw [names_updL]; exact h

theorem ND_filter {cs : List (String × Conn)} (p : String × Conn → Bool) (h : ND cs) : ND (cs.filter p) :=
  List.Nodup.sublist (List.Sublist.map _ List.filter_sublist) h

theorem ND_append {cs : List (String × Conn)} {n : String} {y : Conn} (h : ND cs)
    (hn : (cs.any (fun x => x.1 == n)) = false) : ND (cs ++ [(n, y)]) := by
  simp only [List.any_eq_false, beq_iff_eq] at hn
  simp only [ND, List.map_append, List.map_cons, List.map_nil, List.nodup_append, List.mem_map,
    List.mem_singleton]
  exact ⟨h, by simp, fun a ⟨p, hp, e⟩ b hb => hb ▸ e ▸ hn p hp⟩

theorem ND_udp {cs : List (String × Conn)} {l : String} {y : Conn} (h : ND cs) :
    ND (cs.filter (fun x => x.1 != l) ++ [(l, y)]) :=
  ND_append (ND_filter _ h) (by simp)

theorem mem_lookup {cs : List (String × Conn)} (h : ND cs) {p : String × Conn} (hp : p ∈ cs) :
    lookupL cs p.1 = some p.2 := by
  unfold lookupL; rw [find?_key Prod.fst h hp]; rfl

theorem lookup_mem {cs : List (String × Conn)} {c : String} {x : Conn} (h : lookupL cs c = some x) :
    (c, x) ∈ cs := by
  obtain ⟨⟨n, x'⟩, hp, rfl⟩ := Option.map_eq_some_iff.mp h
  obtain rfl : n = c := by simpa using List.find?_some hp
  exact List.mem_of_find?_eq_some hp

/-! Each rule is applied with `refine` and consumes the head of the program in the goal
`wp (rest of the program) Q s`. Nothing unfolds `exec (fuel+1) w` beforehand: the unification of the first
rule (always `wp_get_bind`, as the body starts with `(← get).cfg`) does, at the head only, where rewriting
with the equation of `exec` would simplify its 22-way match. Likewise an `if` is taken apart by `wp_if`, not
by `split`, which simplifies the whole program. -/

section wp
variable {α β : Type} {s : RState} {Q : β → RState → Prop}

theorem wp_intro {m : M β} (h : ∀ a s', Ok m s a s' → Q a s') : wp m Q s := h

/-- the conclusion has the shape of the fields of `Specs` -/
theorem wp_spec {m : M β} {P : Prop} (H : P → wp m Q s) : ∀ a s', Ok m s a s' → P → Q a s' :=
  fun _ _ h hp => wp_elim (H hp) h

theorem wp_use {m : M β} {P : Prop} (H : ∀ a s', Ok m s a s' → P → Q a s') (hp : P) : wp m Q s :=
  wp_intro fun a s' h => H a s' h hp

theorem wp_ret {a : β} (h : Q a s) : wp (pure a : M β) Q s := by
  rintro _ _ ⟨⟩
  exact h

theorem throw_bind (e : String) (f : α → M β) : (throw e >>= f : M β) = throw e := rfl

/-- also closes `throw e >>= f`, `mismatch w t` and `mismatch w t >>= f`, which unfold to `throw` -/
theorem wp_dead {e : String} : wp (throw e : M β) Q s := fun _ _ h => nomatch h

theorem wp_if {b : Prop} [Decidable b] {m1 m2 : M β} (h1 : b → wp m1 Q s) (h2 : ¬b → wp m2 Q s) :
    wp (if b then m1 else m2) Q s := by
  split
  · exact h1 ‹_›
  · exact h2 ‹_›

theorem wp_guard {b : Prop} [Decidable b] {e : String} {m : M β} (H : ¬b → wp m Q s) :
    wp (if b then throw e else m) Q s := wp_if (fun _ => wp_dead) H

theorem wp_seq {m : M α} {f : α → M β} {R : α → RState → Prop} (hm : wp m R s)
    (H : ∀ a s1, R a s1 → wp (f a) Q s1) : wp (m >>= f) Q s := by
  intro b s2 h2
  simp only [StateT.run, bind, StateT.bind, Except.bind] at h2
  cases h1 : m s with
  | error e => rw [h1] at h2; cases h2
  | ok p => rw [h1] at h2; exact H _ _ (hm _ _ h1) b s2 h2

theorem wp_bind {m : M α} {f : α → M β} (h : wp m (fun a s1 => wp (f a) Q s1) s) : wp (m >>= f) Q s :=
  wp_seq h fun _ _ h => h

theorem wp_pure_bind {a : α} {f : α → M β} (H : wp (f a) Q s) : wp (pure a >>= f) Q s := H

theorem wp_get_bind {f : RState → M β} (H : wp (f s) Q s) : wp (get >>= f) Q s := H

theorem wp_modify_bind {g : RState → RState} {f : PUnit → M β} (H : wp (f ⟨⟩) Q (g s)) :
    wp (modify g >>= f) Q s := H

theorem wp_set_bind {s0 : RState} {f : PUnit → M β} (H : wp (f ⟨⟩) Q s0) : wp (set s0 >>= f) Q s := H

theorem wp_modify {g : RState → RState} {Q : PUnit → RState → Prop} (H : Q ⟨⟩ (g s)) :
    wp (modify g : M PUnit) Q s := by
  rintro _ _ ⟨⟩
  exact H

theorem wp_peek_bind {f : Option Tok → M β} (H : wp (f s.toks.head?) Q s) : wp (peekTok >>= f) Q s :=
  wp_bind (wp_get_bind (wp_ret H))

theorem wp_getConn_bind {c : String} {f : Conn → M β} (H : ∀ x, lookupL s.conns c = some x → wp (f x) Q s) :
    wp (getConn c >>= f) Q s := by
  refine wp_bind (wp_get_bind ?_)
  unfold lookupL at H
  split
  · rename_i x h
    exact wp_ret (H x (by rw [h]; rfl))
  · exact wp_dead

theorem wp_modConn_bind {c : String} {g : Conn → Conn} {f : PUnit → M β}
    (H : ∀ x, lookupL s.conns c = some x → wp (f ⟨⟩) Q { s with conns := updL s.conns c (g x) }) :
    wp (modConn c g >>= f) Q s :=
  wp_bind (wp_getConn_bind fun x hx => wp_modify (H x hx))

theorem wp_noteSys_bind {c : String} {f : PUnit → M β}
    (H : ∀ x, lookupL s.conns c = some x → wp (f ⟨⟩) Q { s with sysLog := s.sysLog ++ [(c, x.fdOpen)] }) :
    wp (noteSys c >>= f) Q s :=
  wp_bind (wp_getConn_bind fun x hx => wp_modify (H x hx))

theorem wp_pop_bind {f : Tok → M β}
    (H : ∀ t rest, s.toks = t :: rest → t.sane = true → wp (f t) Q { s with toks := rest }) :
    wp (pop >>= f) Q s := by
  refine wp_bind (wp_get_bind ?_)
  split
  · exact wp_dead
  · rename_i t rest h
    exact wp_guard fun hs => wp_set_bind (wp_ret (H t rest h (by simpa using hs)))

theorem wp_enter_bind {fn c : String} {f : String → M β}
    (H : ∀ a rest, s.toks = .enter fn c a :: rest → wp (f a) Q { s with toks := rest }) :
    wp (expectEnter fn c >>= f) Q s := by
  refine wp_bind (wp_pop_bind fun t rest ht _ => ?_)
  split
  · refine wp_if (fun hb => ?_) fun _ => wp_dead
    simp only [Bool.and_eq_true, beq_iff_eq] at hb
    obtain ⟨rfl, rfl⟩ := hb
    exact wp_ret (H _ _ ht)
  · exact wp_dead

theorem wp_checkHop_bind {op : String} {n : Int} {e : String} {d : List Nat} {f : Unit → M β}
    (H : ∀ rest, s.toks = .res n e d :: rest → wp (f ()) Q { s with toks := rest }) :
    wp (checkHop op n e d >>= f) Q s := by
  refine wp_bind (wp_pop_bind fun t rest ht _ => ?_)
  split
  · refine wp_if (fun hb => ?_) fun _ => wp_dead
    simp only [Bool.and_eq_true, beq_iff_eq] at hb
    obtain ⟨⟨rfl, rfl⟩, rfl⟩ := hb
    exact wp_ret (H _ ht)
  · exact wp_dead

theorem wp_popRes_bind {op : String} {f : Int × String × List Nat → M β}
    (H : ∀ n e d rest, s.toks = .res n e d :: rest → wp (f (n, e, d)) Q { s with toks := rest }) :
    wp (popRes op >>= f) Q s := by
  refine wp_bind (wp_pop_bind fun t rest ht _ => ?_)
  split
  · exact wp_ret (H _ _ _ _ ht)
  · exact wp_dead

end wp

/-- a `match` on the token just popped whose last alternative is `mismatch` -/
macro "msplit" : tactic => `(tactic| (split; rotate_right; exact wp_dead))

theorem exec_zero (w : Work) (Q : Ret → RState → Prop) (s) : wp (exec 0 w) Q s := wp_dead

attribute [irreducible] wp

/-- what `topLevel` and `finish` dispatch -/
def topW : Work → Bool
  | .accept .. | .processIO .. | .elRead .. | .elWrite .. | .close .. | .connWrite .. | .connWritev ..
  | .wake .. | .closeConns => true
  | _ => false

/-- What it takes for `P` to hold between the top-level items of accepted rounds. `P1` is what is left of `P`
    when a handler has returned Shutdown in the middle of its connection's event. -/
structure RoundInv (P P1 : RState → Prop) : Prop where
  congr : ∀ {s s1 : RState}, P s → s1.conns = s.conns → s1.sysLog = s.sysLog → P s1
  congr1 : ∀ {s s1 : RState}, P1 s → s1.conns = s.conns → s1.sysLog = s.sysLog → P1 s1
  weaken : ∀ {s}, P s → P1 s
  settled : ∀ {s : RState}, P1 s → ¬ (s.conns.any (·.2.registered)) = true → P s
  exec : ∀ fuel w, topW w = true → ∀ s, P s →
    wp (exec fuel w) (fun r s' => P1 s' ∧ (r.code ≠ .shutdown → P s')) s
  closeConns : ∀ fuel s, P1 s → wp (Reactor.exec fuel .closeConns) (fun _ s' => P1 s') s

section rounds
variable {P P1 : RState → Prop} (hR : RoundInv P P1)
include hR

theorem RoundInv.topLevel (fuel : Nat) (s : RState) (h : P s) :
    wp (topLevel fuel) (fun code s' => P1 s' ∧ (code ≠ .shutdown → P s')) s := by
  -- the items themselves change `toks`, `tasks` and `exited` only: `s1` is `s` up to these
  have skip : ∀ {s1 : RState} {code : Code}, s1.conns = s.conns → s1.sysLog = s.sysLog →
      P1 s1 ∧ (code ≠ .shutdown → P s1) :=
    fun e1 e2 => ⟨hR.weaken (hR.congr h e1 e2), fun _ => hR.congr h e1 e2⟩
  have run : ∀ {w : Work} {s1 : RState} {f : Ret → Code}, topW w = true →
      (∀ r, f r ≠ .shutdown → r.code ≠ .shutdown) → s1.conns = s.conns → s1.sysLog = s.sysLog →
      wp (Reactor.exec fuel w >>= fun r => pure (f r))
        (fun code s' => P1 s' ∧ (code ≠ .shutdown → P s')) s1 :=
    fun hw hf e1 e2 => wp_seq (hR.exec _ _ hw _ (hR.congr h e1 e2)) fun r _ h =>
      wp_ret ⟨h.1, fun hne => h.2 (hf r hne)⟩
  have code : ∀ r : Ret, r.code ≠ .shutdown → r.code ≠ .shutdown := fun _ hne => hne
  have async : ∀ r : Ret,
      (if r.code == .shutdown then Code.shutdown else .nil) ≠ .shutdown → r.code ≠ .shutdown :=
    fun r hne hr => hne (by rw [hr]; rfl)
  refine wp_peek_bind ?_
  split
  · exact wp_ret (skip rfl rfl)
  split
  · exact run rfl code rfl rfl                                                          -- accept
  · exact wp_pop_bind fun _ _ _ _ => run rfl code rfl rfl                               -- processIO
  · -- asyncWrite
    refine wp_pop_bind fun _ _ _ _ => wp_get_bind ?_
    split
    · refine wp_set_bind (wp_getConn_bind fun _ _ => ?_)
      exact wp_if (fun _ => wp_ret (skip rfl rfl)) fun _ => run rfl async rfl rfl
    · exact wp_dead
    · exact wp_dead
  · -- asyncWritev
    refine wp_pop_bind fun _ _ _ _ => wp_get_bind ?_
    split
    · refine wp_set_bind (wp_getConn_bind fun _ _ => ?_)
      exact wp_if (fun _ => wp_ret (skip rfl rfl)) fun _ => run rfl async rfl rfl
    · exact wp_dead
    · exact wp_dead
  · exact wp_modify_bind (run rfl code rfl rfl)                                         -- wake
  · exact wp_modify_bind (run rfl code rfl rfl)                                         -- close
  · exact wp_pop_bind fun _ _ _ _ => wp_modify_bind (run rfl code rfl rfl)              -- read0
  · exact wp_pop_bind fun _ _ _ _ => wp_modify_bind (run rfl code rfl rfl)              -- write0
  · -- the event of a stale descriptor
    exact wp_pop_bind fun _ _ _ _ => wp_ret (skip rfl rfl)
  · -- closeConns
    refine wp_pop_bind fun _ _ _ _ => ?_
    refine wp_seq (hR.closeConns _ _ (hR.weaken (hR.congr h rfl rfl))) fun _ _ h => ?_
    exact wp_get_bind (wp_guard fun hreg =>
      wp_ret ⟨hR.weaken (hR.settled h hreg), fun _ => hR.settled h hreg⟩)
  · exact wp_pop_bind fun _ _ _ _ => wp_modify_bind (wp_ret (skip rfl rfl))             -- exit
  · exact wp_dead

theorem RoundInv.finish (fuel : Nat) (s : RState) (h : P1 s) : wp (finish fuel) (fun _ s' => P s') s := by
  refine wp_peek_bind ?_
  split
  · refine wp_pop_bind fun _ _ _ _ => ?_
    refine wp_seq (hR.closeConns _ _ (hR.congr1 h rfl rfl)) fun _ _ h => ?_
    refine wp_get_bind (wp_guard fun hreg => ?_)
    refine wp_pop_bind fun _ _ _ _ => ?_
    split
    · exact wp_modify (hR.congr (hR.settled h hreg) rfl rfl)
    · exact wp_dead
  · exact wp_dead
  · exact wp_dead

theorem RoundInv.round : ∀ fuel s, P s → wp (round fuel) (fun _ s' => P s') s
  | 0, _, _ => wp_dead
  | fuel + 1, s, hP => by
    refine wp_peek_bind ?_
    split
    · exact wp_ret hP
    refine wp_seq (hR.topLevel _ s hP) fun code s ⟨h1, h2⟩ => wp_if (fun _ => ?_) fun hc => ?_
    · refine wp_seq (hR.finish _ s h1) fun _ s hP => wp_peek_bind ?_
      split
      · exact wp_ret hP
      · exact wp_dead
    · refine RoundInv.round fuel s (h2 ?_)
      rintro rfl
      exact hc rfl

theorem RoundInv.acceptRound {s s' : RState} {toks : List Tok} (h : acceptRound s toks = .ok s')
    (hP : P { s with toks := toks }) : P s' := by
  unfold Reactor.acceptRound at h
  dsimp only at h
  split at h
  · cases h
    exact wp_elim (hR.round _ _ hP) ‹_›
  · cases h

end rounds

end Gnet.Proofs.ReactorL

namespace Gnet.Reactor

/-! The other way to take a program apart: from a hypothesis `m.run s = .ok r`, backwards. The wp proofs do
not use these. -/

theorem mismatch_inv {α : Type} {w : String} {t : Tok} {s : RState} {r : α × RState}
    (h : (mismatch w t : M α).run s = .ok r) : False := nomatch h

theorem guard_inv {α β : Type} {c : Prop} [Decidable c] {e : String} {k : α → M β} {u : α} {s : RState}
    {r : β × RState} (h : (if c then (throw e : M α) >>= k else k u).run s = .ok r) :
    ¬c ∧ (k u).run s = .ok r := by
  split at h
  · exact nomatch h
  · exact ⟨‹_›, h⟩

theorem guard_bind_inv {α β γ : Type} {c : Prop} [Decidable c] {e : String} {k : α → M β} {u : α}
    {K : β → M γ} {s : RState} {r : γ × RState}
    (h : ((if c then (throw e : M α) >>= k else k u) >>= K).run s = .ok r) :
    ¬c ∧ (k u >>= K).run s = .ok r := by
  split at h
  · exact nomatch h
  · exact ⟨‹_›, h⟩

theorem guard_bind_inv' {β γ : Type} {c : Prop} [Decidable c] {e : String} {m : M β} {K : β → M γ}
    {s : RState} {r : γ × RState}
    (h : ((if c then (throw e : M β) else m) >>= K).run s = .ok r) : ¬c ∧ (m >>= K).run s = .ok r := by
  split at h
  · exact nomatch h
  · exact ⟨‹_›, h⟩

theorem ite_inv {β : Type} {c : Prop} [Decidable c] {m1 m2 : M β} {s : RState} {r : β × RState}
    (h : (if c then m1 else m2).run s = .ok r) : (c ∧ m1.run s = .ok r) ∨ (¬c ∧ m2.run s = .ok r) := by
  split at h
  · exact Or.inl ⟨‹_›, h⟩
  · exact Or.inr ⟨‹_›, h⟩

theorem to_bind {α : Type} {m : M α} {s : RState} {r : α × RState} (h : m.run s = .ok r) :
    (m >>= pure).run s = .ok r := by rw [bind_pure]; exact h

end Gnet.Reactor
