/-
  What the pieces of the model of url.Parse (the cuts, `escapePercent`, `unescape`) compute on text
  of a given form, and the alphabet `plain` the well-formed addresses are written in.
-/
import Gnet.Model.Url
namespace Gnet.Proofs.Url
open Gnet Gnet.Url

theorem char_le_iff_toNat_le (c d : Char) : c ≤ d ↔ c.toNat ≤ d.toNat := by
  rw [Char.le_def, UInt32.le_iff_toNat_le]; rfl

theorem alnum_notCTL {c} (h : isAlnum c = true) : isCTL c = false := by
  simp only [isAlnum, isAlpha, isLower, isUpper, isDigit, isCTL, char_le_iff_toNat_le,
    Char.reduceToNat, Bool.or_eq_true, Bool.and_eq_true, decide_eq_true_eq, Bool.or_eq_false_iff,
    decide_eq_false_iff_not] at *
  omega

theorem lowerDigit_notUpper {c} (h : (isLower c || isDigit c) = true) : isUpper c = false := by
  simp only [isLower, isUpper, isDigit, char_le_iff_toNat_le, Char.reduceToNat,
    Bool.or_eq_true, Bool.and_eq_true, decide_eq_true_eq, Bool.and_eq_false_iff,
    decide_eq_false_iff_not] at *
  omega

/-- the characters all our well-formed addresses are made of, apart from '/' and '%' -/
def plain (c : Char) : Bool :=
  isLower c || isDigit c || c = '.' || c = '-' || c = '_' || c = ':' || c = '[' || c = ']'

theorem plain_of_lower {c} (h : isLower c = true) : plain c = true := by
  simp [plain, h]
theorem plain_of_digit {c} (h : isDigit c = true) : plain c = true := by
  simp [plain, h]
theorem plain_of_name {c} (h : nameChar c = true) : plain c = true := by
  unfold nameChar at h; simp [plain, h]
theorem plain_of_zone {c} (h : zoneChar c = true) : plain c = true := by
  unfold zoneChar at h; unfold plain; grind
theorem plain_of_seg {c} (h : segChar c = true) : plain c = true := by
  unfold segChar at h; unfold plain; grind
theorem plain_of_hexColon {c} (h : hexColonChar c = true) : plain c = true := by
  have : ('a' ≤ c && c ≤ 'f') = true → isLower c = true := by
    simp only [isLower, Bool.and_eq_true, decide_eq_true_eq]
    exact fun h => ⟨h.1, Char.le_trans h.2 (by decide)⟩
  unfold hexColonChar at h; unfold plain; grind

theorem plain_ok_in_host {c} (h : plain c = true) :
    isCTL c = false ∧ shouldEscape c .host = false := by
  have : isAlnum c = true ∨ c = '.' ∨ c = '-' ∨ c = '_' ∨ c = ':' ∨ c = '[' ∨ c = ']' := by
    unfold plain at h; unfold isAlnum isAlpha; grind
  rcases this with h | rfl | rfl | rfl | rfl | rfl | rfl
  · exact ⟨alnum_notCTL h, by simp [shouldEscape, h]⟩
  all_goals decide +kernel

theorem plain_safe {c} (h : plain c = true) : isCTL c = false ∧ c ≠ '#' ∧ c ≠ '?' :=
  ⟨(plain_ok_in_host h).1, by rintro rfl; revert h; decide, by rintro rfl; revert h; decide⟩

theorem shouldEscape_zone (c : Char) : shouldEscape c .zone = shouldEscape c .host := by
  simp [shouldEscape]

theorem not_mem_of_forall {P : Char → Prop} {l : Bytes} {c : Char} (h : ∀ x ∈ l, P x) (hc : ¬ P c) :
    c ∉ l := fun hm => hc (h c hm)

def Plain (l : Bytes) : Prop := ∀ c ∈ l, plain c = true

def PlainP (l : Bytes) : Prop := ∀ c ∈ l, plain c = true ∨ c = '%'

/-- text that may stand in the authority / path part without ending it early -/
def Safe (l : Bytes) : Prop := ∀ c ∈ l, isCTL c = false ∧ c ≠ '#' ∧ c ≠ '?'

theorem Plain.cons {c l} (hc : plain c = true) (hl : Plain l) : Plain (c :: l) :=
  List.forall_mem_cons.2 ⟨hc, hl⟩
theorem Plain.append {a b} (ha : Plain a) (hb : Plain b) : Plain (a ++ b) :=
  List.forall_mem_append.2 ⟨ha, hb⟩
theorem PlainP.append {a b} (ha : PlainP a) (hb : PlainP b) : PlainP (a ++ b) :=
  List.forall_mem_append.2 ⟨ha, hb⟩
theorem Safe.append {a b} (ha : Safe a) (hb : Safe b) : Safe (a ++ b) :=
  List.forall_mem_append.2 ⟨ha, hb⟩
theorem PlainP.tail {c l} (h : PlainP (c :: l)) : PlainP l := (List.forall_mem_cons.1 h).2

theorem Plain.of_all {l : Bytes} {p : Char → Bool} (hp : ∀ {c}, p c = true → plain c = true)
    (h : l.all p = true) : Plain l :=
  fun c hc => hp (List.all_eq_true.mp h c hc)

theorem Plain.plainP {l} (h : Plain l) : PlainP l := fun c hc => .inl (h c hc)
theorem PlainP.safe {l} (h : PlainP l) : Safe l := fun c hc =>
  (h c hc).elim plain_safe (by rintro rfl; decide)
theorem Safe.noCTL {l} (h : Safe l) : l.any isCTL = false :=
  List.any_eq_false.2 fun c hc => by simp [(h c hc).1]

/-! `takeWhile (· ≠ c)` / `dropWhile (· ≠ c)`: the model's `strings.Cut`, `strings.Index` at `c`. -/

theorem cut_append {c : Char} {a b : Bytes} (ha : c ∉ a) (hb : ∀ x ∈ b.head?, x = c) :
    (a ++ b).takeWhile (· ≠ c) = a ∧ (a ++ b).dropWhile (· ≠ c) = b := by
  have ha' : ∀ x ∈ a, decide (x ≠ c) = true := fun x hx => decide_eq_true fun e => ha (e ▸ hx)
  rw [List.takeWhile_append_of_pos ha', List.dropWhile_append_of_pos ha']
  cases b with
  | nil => simp
  | cons x b => simp [hb x rfl]

theorem cut_all {c : Char} {l : Bytes} (h : c ∉ l) :
    l.takeWhile (· ≠ c) = l ∧ l.dropWhile (· ≠ c) = [] := by
  simpa using cut_append (b := []) h (by simp)

theorem cut_head (c : Char) (l : Bytes) : ∀ x ∈ (l.dropWhile (· ≠ c)).head?, x = c := by
  intro x hx
  have := List.head?_dropWhile_not (· ≠ c) l
  rw [Option.mem_def.1 hx] at this
  simpa using this

theorem splitLast_none {c : Char} {l : Bytes} (h : c ∉ l) : splitLast c l = none := by
  induction l with
  | nil => rfl
  | cons x xs ih =>
    rw [List.mem_cons, not_or] at h
    simp [splitLast, ih h.2, Ne.symm h.1]

theorem splitLast_append {c : Char} {a b : Bytes} (h : c ∉ b) :
    splitLast c (a ++ c :: b) = some (a, b) := by
  induction a with
  | nil => simp [splitLast, splitLast_none h]
  | cons x xs ih => simp [splitLast, ih]

theorem escapePercent_append (a b : Bytes) :
    escapePercent (a ++ b) = escapePercent a ++ escapePercent b := List.flatMap_append

theorem escapePercent_cons (c : Char) (l : Bytes) :
    escapePercent (c :: l) = (if c = '%' then pct25 else [c]) ++ escapePercent l := rfl

theorem escapePercent_id {l : Bytes} (h : '%' ∉ l) : escapePercent l = l := by
  induction l with
  | nil => rfl
  | cons x xs ih =>
    rw [List.mem_cons, not_or] at h
    rw [escapePercent_cons, ih h.2, if_neg (Ne.symm h.1)]; rfl

theorem PlainP.escape {l} (h : PlainP l) : PlainP (escapePercent l) :=
  List.forall_mem_flatMap.2 fun x hx => by
    split
    · decide
    · simpa using h x hx

theorem splitPct25_cons_ne {x : Char} (hx : x ≠ '%') (l : Bytes) :
    splitPct25 (x :: l) = (splitPct25 l).map fun ab => (x :: ab.1, ab.2) := by
  rw [splitPct25, if_neg (by simp [pct25, List.isPrefixOf, Ne.symm hx])]

theorem splitPct25_append {a b : Bytes} (h : '%' ∉ a) :
    splitPct25 (a ++ '%' :: '2' :: '5' :: b) = some (a, '%' :: '2' :: '5' :: b) := by
  induction a with
  | nil => rfl
  | cons x xs ih =>
    rw [List.mem_cons, not_or] at h
    rw [List.cons_append, splitPct25_cons_ne (Ne.symm h.1), ih h.2]; rfl

theorem splitPct25_escape (l : Bytes) : splitPct25 (escapePercent l) =
    if '%' ∈ l then
      some (escapePercent (l.takeWhile (· ≠ '%')), escapePercent (l.dropWhile (· ≠ '%')))
    else none := by
  induction l with
  | nil => rfl
  | cons x xs ih =>
    by_cases hx : x = '%'
    · subst hx; rfl
    · rw [escapePercent_cons, if_neg hx, List.singleton_append, splitPct25_cons_ne hx, ih]
      by_cases hm : '%' ∈ xs <;> simp [hm, escapePercent_cons, hx, Ne.symm hx]

theorem unescape_cons_ne {m : Mode} {c : Char} (h : c ≠ '%') (hp : c ≠ '+') (rest : Bytes) :
    unescape m (c :: rest) =
      if (m = .host || m = .zone) && c.toNat < 0x80 && shouldEscape c m then none
      else (unescape m rest).map (c :: ·) := by
  rw [unescape.eq_def]; exact (if_neg h).trans (if_neg hp)

/-- What gnet's escaping is for: `unescape` reads "%25" back as '%' in every mode. -/
theorem unescape_escape {m : Mode} {l : Bytes}
    (h : ∀ c ∈ l, c = '%' ∨
      (c = '+' → m ≠ .queryComponent) ∧ (m = .host ∨ m = .zone → shouldEscape c m = false)) :
    unescape m (escapePercent l) = some l := by
  induction l with
  | nil => rfl
  | cons x xs ih =>
    rw [List.forall_mem_cons] at h
    rw [escapePercent_cons]
    by_cases hx : x = '%'
    · have e1 : pctRejected m '2' '5' = false := by simp [pctRejected]
      have e2 : pctByte '2' '5' = '%' := by decide
      have e3 : (isHex '2' && isHex '5') = true := by decide
      rw [unescape.eq_def]
      simp [hx, pct25, e1, e2, e3, ih h.2]
    · obtain ⟨hplus, hesc⟩ := h.1.resolve_left hx
      rw [if_neg hx, List.singleton_append]
      by_cases hp : x = '+'
      · rw [unescape.eq_def]
        simp [hp, hplus hp, ih h.2]
      · have hm : ((m = .host || m = .zone) && x.toNat < 0x80 && shouldEscape x m) = false := by
          by_cases hm : m = .host ∨ m = .zone
          · simp [hesc hm]
          · rw [not_or] at hm; simp [hm]
        rw [unescape_cons_ne hx hp, hm, ih h.2]; rfl

theorem unescape_id {m : Mode} {l : Bytes} (hpct : '%' ∉ l) (hplus : m = .queryComponent → '+' ∉ l)
    (hesc : m = .host ∨ m = .zone → ∀ c ∈ l, shouldEscape c m = false) : unescape m l = some l := by
  have := unescape_escape (m := m) (l := l) fun c hc =>
    .inr ⟨fun e hm => hplus hm (e ▸ hc), fun hm => hesc hm c hc⟩
  rwa [escapePercent_id hpct] at this

theorem unescape_path_id {l : Bytes} (h : '%' ∉ l) : unescape .path l = some l :=
  unescape_id h nofun (by simp)

theorem unescape_escape_plainP {m : Mode} (hm : m = .host ∨ m = .zone) {l : Bytes} (h : PlainP l) :
    unescape m (escapePercent l) = some l :=
  unescape_escape fun c hc => (h c hc).symm.imp_right fun hp =>
    ⟨by rintro rfl; exact absurd hp (by decide), fun _ => by
      rcases hm with rfl | rfl
      · exact (plain_ok_in_host hp).2
      · exact shouldEscape_zone c ▸ (plain_ok_in_host hp).2⟩

theorem unescape_host_plain {l : Bytes} (h : Plain l) : unescape .host l = some l :=
  unescape_id (not_mem_of_forall h (by decide)) nofun fun _ c hc => (plain_ok_in_host (h c hc)).2

end Gnet.Proofs.Url
