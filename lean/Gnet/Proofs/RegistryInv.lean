/-
  `Inv m s`: the occupied cells of the matrix are those before the cursor in row-major order (`hi`), and
  cells, objects and `fd2gfd` agree with `s.lookup`. Kept by `newConn` and `addConn`; `getConn` and
  `loadCount` read the specification off it.
-/
import Gnet.Proofs.RegistryTable
namespace Gnet.Proofs.Registry
open Gnet

/-- `rle`, `cle`: an object records its cell modulo 256 and 65536 (the field widths of the gfd);
    `c2`: see `C14.matrix_cols_one_counterexample` -/
structure Inv (m : Matrix) (s : RegSpec) : Prop where
  c2 : 1 < m.cols
  rle : m.rows ≤ 256
  cle : m.cols ≤ 65536
  cur : (m.row < m.rows ∧ m.col < m.cols) ∨ (m.row = m.rows ∧ m.col = 0)
  dense : ∀ r c, (cellT m.table r c).isSome ↔ c < hi m.row m.col m.cols r
  cnt : ∀ r, m.counts r = (hi m.row m.col m.cols r : Nat)
  obj : ∀ {r c id}, cellT m.table r c = some id →
    (m.objs id).grow = r ∧ (m.objs id).gcol = c ∧ s.lookup (s.fdOf id) = some id
  objfd : ∀ id, (m.objs id).fd = s.fdOf id
  fwd : ∀ {fd id}, s.lookup fd = some id →
    ∃ r c, m.fd2gfd fd = some (r, c) ∧ cellT m.table r c = some id
  nokey : ∀ {fd}, s.lookup fd = none → m.fd2gfd fd = none
  sinv : SInv s
  len : s.live.length = m.row * m.cols + m.col
  dc : m.disableCompact = false

theorem Inv.empty {m : Matrix} {fdOf : Nat → Int}
    (hc : 1 < m.cols) (hr : m.rows ≤ 256) (hcc : m.cols ≤ 65536)
    (hrow : m.row = 0) (hcol : m.col = 0) (hdc : m.disableCompact = false)
    (hcell : ∀ r c, cellT m.table r c = none) (hn : ∀ r, m.counts r = 0)
    (hf : ∀ fd, m.fd2gfd fd = none)
    (ho : ∀ id, (m.objs id).fd = fdOf id) : Inv m ⟨[], fdOf⟩ where
  c2 := hc
  rle := hr
  cle := hcc
  cur := by omega
  dense r c := by rw [hcell, hrow, hcol, hi_zero]; simp
  cnt r := by rw [hn, hrow, hcol, hi_zero]; rfl
  obj h := by rw [hcell] at h; cases h
  objfd := ho
  fwd hl := by cases hl
  nokey _ := hf _
  sinv := .nil _
  len := by rw [hrow, hcol, Nat.zero_mul]; rfl
  dc := hdc

theorem Inv.init (rows cols : Nat) (hc : 1 < cols) (hr : rows ≤ 256) (hcc : cols ≤ 65536) :
    Inv (Matrix.init rows cols) RegSpec.init :=
  Inv.empty hc hr hcc rfl rfl rfl (fun _ _ => rfl) (fun _ => rfl) (fun _ => rfl) (fun _ => rfl)

variable {m : Matrix} {s : RegSpec}

theorem Inv.cell_lt_hi (h : Inv m s) {r c id : Nat} (hc : cellT m.table r c = some id) :
    c < hi m.row m.col m.cols r := (h.dense r c).1 (Option.isSome_of_eq_some hc)

theorem Inv.cell_none (h : Inv m s) {r c : Nat} (hc : hi m.row m.col m.cols r ≤ c) :
    cellT m.table r c = none :=
  Option.not_isSome_iff_eq_none.1 fun hs => absurd ((h.dense r c).1 hs) (by omega)

theorem Inv.cell_bounds (h : Inv m s) {r c id : Nat} (hc : cellT m.table r c = some id) :
    r < m.rows ∧ c < m.cols ∧ (r < m.row ∨ (r = m.row ∧ c < m.col)) := by
  have := lt_hi.1 (h.cell_lt_hi hc)
  have := h.cur
  omega

theorem Inv.cell_inj (h : Inv m s) {r c r' c' i j : Nat}
    (h1 : cellT m.table r c = some i) (h2 : cellT m.table r' c' = some j) (e : i = j) :
    r = r' ∧ c = c' := by
  subst e
  obtain ⟨a1, a2, _⟩ := h.obj h1
  obtain ⟨b1, b2, _⟩ := h.obj h2
  exact ⟨a1.symm.trans b1, a2.symm.trans b2⟩

theorem Inv.fd2gfd_some (h : Inv m s) {fd : Int} {r c : Nat}
    (hf : m.fd2gfd fd = some (r, c)) :
    ∃ id, cellT m.table r c = some id ∧ s.lookup fd = some id := by
  cases hl : s.lookup fd with
  | none => rw [h.nokey hl] at hf; cases hf
  | some id =>
    obtain ⟨r', c', h1, h2⟩ := h.fwd hl
    rw [hf] at h1
    cases h1
    exact ⟨id, h2, rfl⟩

theorem Inv.get (h : Inv m s) (fd : Int) : m.getConn fd = s.lookup fd := by
  unfold Matrix.getConn
  cases hl : s.lookup fd with
  | none => rw [h.nokey hl]
  | some id =>
    obtain ⟨r, c, h1, h2⟩ := h.fwd hl
    rw [h1]
    exact h2

theorem sum_hi {f : Nat → Int} {R C cols : Nat} (hf : ∀ r, f r = (hi R C cols r : Nat)) :
    ∀ n, (List.range n).foldl (fun acc r => acc + f r) 0 =
      ((if n ≤ R then n * cols else R * cols + C : Nat) : Int)
  | 0 => by simp
  | n + 1 => by
    rw [List.range_succ, List.foldl_append, sum_hi hf n]
    simp only [List.foldl_cons, List.foldl_nil]
    rw [hf n]
    rcases Nat.lt_trichotomy n R with h | h | h
    · rw [if_pos (by omega), if_pos (by omega), hi_of_lt h, Nat.succ_mul]; omega
    · rw [if_pos (by omega), if_neg (by omega), h, hi_self]; omega
    · rw [if_neg (by omega), if_neg (by omega), hi_of_gt h]; omega

theorem Inv.count (h : Inv m s) : m.loadCount = s.live.length := by
  unfold Matrix.loadCount
  rw [sum_hi h.cnt m.rows, h.len]
  rcases h.cur with ⟨a, b⟩ | ⟨a, b⟩
  · rw [if_neg (by omega)]
  · rw [if_pos (by omega), a, b]; simp

theorem Inv.conn (h : Inv m s) (id : Nat) (fd : Int)
    (hv : ∀ p ∈ s.live, p.2 ≠ id) : Inv (m.newConn id fd) (s.step (.conn id fd)) :=
  { h with
    sinv := h.sinv.conn id fd hv
    obj := by
      intro r c id' hc
      obtain ⟨a, b, d⟩ := h.obj hc
      have hne : id' ≠ id := hv _ (h.sinv.lookup_eq_some.1 d)
      show (Matrix.upd m.objs id ⟨fd, 0, 0, 0⟩ id').grow = r ∧
        (Matrix.upd m.objs id ⟨fd, 0, 0, 0⟩ id').gcol = c ∧
        s.lookup (if id' = id then fd else s.fdOf id') = some id'
      rw [upd_other hne, if_neg hne]
      exact ⟨a, b, d⟩
    objfd := by
      intro i
      show (Matrix.upd m.objs id ⟨fd, 0, 0, 0⟩ i).fd = if i = id then fd else s.fdOf i
      by_cases e : i = id
      · subst e; simp
      · rw [upd_other e, if_neg e]; exact h.objfd i }

theorem Inv.add (h : Inv m s) (id el : Nat)
    (hv : s.valid (m.rows * m.cols) (.add id el)) : Inv (m.addConn id el) (s.step (.add id el)) := by
  obtain ⟨hv, hcap⟩ := hv
  have hpos : m.row < m.rows ∧ m.col < m.cols := by
    rcases h.cur with a | ⟨a, b⟩
    · exact a
    · rw [h.len, a, b] at hcap; omega
  have hr256 : m.row % 256 = m.row := Nat.mod_eq_of_lt (by have := h.rle; omega)
  have hc65536 : m.col % 65536 = m.col := Nat.mod_eq_of_lt (by have := h.cle; omega)
  rw [addConn_eq m id el hpos.1, hr256, hc65536]
  have hn : Next m.cols m.row m.col (if m.col + 1 = m.cols then m.row + 1 else m.row)
      (if m.col + 1 = m.cols then 0 else m.col + 1) := by
    unfold Next; split <;> omega
  generalize (if m.col + 1 = m.cols then m.row + 1 else m.row) = R' at hn ⊢
  generalize (if m.col + 1 = m.cols then 0 else m.col + 1) = C' at hn ⊢
  have hcell := cellT_setT (t := m.table) m.row m.col (some id)
  have hempty : cellT m.table m.row m.col = none :=
    h.cell_none (by rw [hi_self]; exact Nat.le_refl _)
  have hlk := lookup_add (s := s) id el fun p hp => (hv p hp).1
  have hnew : s.lookup (s.fdOf id) = none := lookup_not_key fun p hp => (hv p hp).1
  exact
    { c2 := h.c2
      rle := h.rle
      cle := h.cle
      sinv := h.sinv.add id el hv
      dc := h.dc
      cur := by
        show (R' < m.rows ∧ C' < m.cols) ∨ (R' = m.rows ∧ C' = 0)
        have := h.c2
        rcases hn with a | a <;> omega
      dense := by
        intro r c
        show (cellT (setT m.table m.row m.col (some id)) r c).isSome ↔ c < hi R' C' m.cols r
        rw [hcell, hn.hi]
        by_cases e : r = m.row ∧ c = m.col
        · rw [if_pos e, if_pos e.1]; exact iff_of_true rfl (by omega)
        · rw [if_neg e, h.dense]
          by_cases e1 : r = m.row
          · rw [if_pos e1, e1, hi_self]; omega
          · rw [if_neg e1]
      cnt := by
        intro r
        show Matrix.upd m.counts m.row (m.counts m.row + 1) r = (hi R' C' m.cols r : Nat)
        rw [hn.hi]
        by_cases e1 : r = m.row
        · rw [if_pos e1, e1, upd_same, h.cnt, hi_self]; simp
        · rw [if_neg e1, upd_other e1]; exact h.cnt r
      obj := by
        intro r c id' hc
        replace hc : cellT (setT m.table m.row m.col (some id)) r c = some id' := hc
        rw [hcell] at hc
        show (Matrix.upd m.objs id _ id').grow = r ∧ (Matrix.upd m.objs id _ id').gcol = c ∧
          (s.step (.add id el)).lookup (s.fdOf id') = some id'
        rw [hlk]
        by_cases e : r = m.row ∧ c = m.col
        · rw [if_pos e] at hc
          cases hc
          rw [upd_same, if_pos rfl]
          exact ⟨e.1.symm, e.2.symm, rfl⟩
        · rw [if_neg e] at hc
          obtain ⟨a, b, d⟩ := h.obj hc
          rw [upd_other (hv _ (h.sinv.lookup_eq_some.1 d)).2,
            if_neg fun e => by rw [e, hnew] at d; cases d]
          exact ⟨a, b, d⟩
      objfd := by
        intro i
        show (Matrix.upd m.objs id _ i).fd = s.fdOf i
        by_cases e : i = id
        · subst e; rw [upd_same]; exact h.objfd i
        · rw [upd_other e]; exact h.objfd i
      fwd := by
        intro fd x hl
        show ∃ r c, Matrix.updI m.fd2gfd (m.objs id).fd _ fd = some (r, c) ∧
          cellT (setT m.table m.row m.col (some id)) r c = some x
        rw [hlk] at hl
        rw [h.objfd]
        by_cases e : fd = s.fdOf id
        · rw [if_pos e] at hl
          cases hl
          exact ⟨m.row, m.col, by rw [e, updI_same], by rw [hcell, if_pos ⟨rfl, rfl⟩]⟩
        · rw [if_neg e] at hl
          obtain ⟨r, c, h1, h2⟩ := h.fwd hl
          refine ⟨r, c, by rw [updI_other e]; exact h1, ?_⟩
          rw [hcell, if_neg]; exact h2
          rintro ⟨rfl, rfl⟩
          rw [hempty] at h2; cases h2
      nokey := by
        intro fd hl
        show Matrix.updI m.fd2gfd (m.objs id).fd _ fd = none
        rw [hlk] at hl
        by_cases e : fd = s.fdOf id
        · rw [if_pos e] at hl; cases hl
        · rw [if_neg e] at hl
          rw [h.objfd, updI_other e]
          exact h.nokey hl
      len := by
        show (s.live ++ [(s.fdOf id, id)]).length = R' * m.cols + C'
        rw [hn.len, List.length_append, h.len]; rfl }

end Gnet.Proofs.Registry
