/-
  The invariant with the uniqueness of names (`K`) through the work that is not about one fixed connection
  (accept, UDP, closeConns), then through whole rounds.
-/
import Gnet.Proofs.ReactorLifeInv
namespace Gnet.Proofs.ReactorL
open Gnet.Reactor

theorem InvO_udp_start {l : String} {cs : List (String × Conn)} {y : Conn} (h : InvLc cs) :
    InvO l (cs.filter (fun x => x.1 != l) ++ [(l, y)]) := by
  intro c' x hc hx
  rw [lookupL_append, lookupL_filter_ne _ _ _ hc, lookupL_cons, if_neg (Ne.symm hc), lookupL_nil,
    Option.or_none] at hx
  exact h c' x hx

theorem InvLc_udp_end {l : String} {cs : List (String × Conn)} (h : InvO l cs) :
    InvLc (cs.filter (fun x => x.1 != l)) :=
  InvLc_of_InvO (fun c' x hc hx => h c' x hc (by rwa [lookupL_filter_ne _ _ _ hc] at hx))
    (fun x hx => by rw [lookupL_filter_same] at hx; cases hx)

theorem J_append {G : Prop} {cs : List (String × Conn)} {sl} {n : String} (h : J G cs sl) :
    J G (cs ++ [(n, ({} : Conn))]) sl := by
  refine ⟨fun c' x hx => ?_, h.fd⟩
  rw [lookupL_append, Option.or_eq_some_iff] at hx
  rcases hx with hx | ⟨_, hx⟩
  · exact h.inv c' x hx
  · rw [lookupL_cons] at hx
    split at hx <;> cases hx
    exact LifeOKc_new true true

/-- the invariant between top-level items -/
structure K (G : Prop) (cs : List (String × Conn)) (sl : List (String × Bool)) : Prop where
  j : J G cs sl
  nd : ND cs

theorem K_target {G : Prop} {c : String} {fuel : Nat} {w : Work} (hw : target w = some c) {s : RState}
    (hj : wp (exec fuel w) (fun _ s' => J G s'.conns s'.sysLog) s) (hn : ND s.conns) :
    wp (exec fuel w) (fun _ s' => K G s'.conns s'.sysLog) s :=
  wp_mono (wp_and hj (frame_gen c ND ND_upd fuel w hw s hn)) (fun _ _ h => ⟨h.1, h.2⟩)

/-- inside a UDP callback the transient connection named after the listener is outside the invariant -/
structure KU (G : Prop) (l : String) (cs : List (String × Conn)) (sl : List (String × Bool)) : Prop where
  o : InvO l cs
  fd : G → FdL sl
  nd : ND cs

@[reducible] def PreN (G : Prop) (w : Work) (cs : List (String × Conn)) (sl : List (String × Bool)) : Prop :=
  match w with
  | .udpCallback l _ => KU G l cs sl
  | _ => K G cs sl

theorem K_untargeted (G : Prop) :
    ∀ fuel w, target w = none → ∀ s, PreN G w s.conns s.sysLog →
      wp (exec fuel w) (fun _ s' => K G s'.conns s'.sysLog) s := by
  intro fuel
  induction fuel with
  | zero => intro w _ s _; exact exec_zero _ _ _
  | succ fuel ih =>
    intro w hw s hs
    cases w with
    | accept l =>
      refine wp_get_bind ?_
      refine wp_enter_bind fun _ _ _ => ?_
      refine wp_pop_bind fun t _ _ _ => ?_
      split
      · refine wp_guard fun _ => ?_
        refine wp_if (fun _ => wp_get_bind ?_) fun _ => wp_if (fun _ => wp_ret hs) fun _ => wp_ret hs
        refine wp_guard fun hfresh => wp_modify_bind ?_
        -- appended under a fresh name, then `register0`
        replace hfresh := Bool.eq_false_iff.mpr hfresh
        exact K_target rfl
          (J_register0 G _ fuel _ {} (J_append hs.j) (lookupL_append_fresh hfresh) rfl rfl rfl)
          (ND_append hs.nd hfresh)
      · exact wp_guard fun _ => ih _ rfl _ hs
      · exact wp_dead
    | readUDP l =>
      refine wp_get_bind ?_
      refine wp_pop_bind fun t _ _ _ => ?_
      msplit
      refine wp_guard fun _ => wp_if (fun _ => wp_ret hs) fun _ => ?_
      refine wp_modify_bind ?_
      refine wp_pop_bind fun t _ _ _ => ?_
      msplit
      refine wp_guard fun _ => wp_guard fun _ => wp_guard fun _ => ?_
      exact ih _ rfl _ ⟨InvO_udp_start hs.j.inv, hs.j.fd, ND_udp hs.nd⟩
    | udpCallback l src =>
      refine wp_get_bind ?_
      refine wp_pop_bind fun t _ _ _ => ?_
      split
      · -- the handler returns: the transient connection is released
        have hK : K G _ _ := ⟨⟨InvLc_udp_end hs.o, hs.fd⟩, ND_filter _ hs.nd⟩
        exact wp_modify_bind (wp_if (fun _ => wp_ret hK) fun _ => wp_ret hK)
      · rename_i op arg _ _
        refine wp_getConn_bind fun x hx => ?_
        extract_lets all argN jp
        have fin : ∀ s, KU G l s.conns s.sysLog → wp (jp ()) (fun _ s' => K G s'.conns s'.sysLog) s :=
          fun _ hs => ih _ rfl _ hs
        have eat : ∀ {g : Conn → Conn} {s}, KU G l s.conns s.sysLog →
            wp (modConn l g >>= jp) (fun _ s' => K G s'.conns s'.sysLog) s :=
          fun hs => wp_modConn_bind fun _ _ => fin _ ⟨InvO_upd hs.o, hs.fd, ND_upd hs.nd⟩
        have hop : ∀ {s : RState} {n : Int} {e : String} {d : List Nat}, KU G l s.conns s.sysLog →
            wp (checkHop op n e d >>= jp) (fun _ s' => K G s'.conns s'.sysLog) s :=
          fun hs => wp_checkHop_bind fun _ _ => fin _ hs
        split
        · exact wp_checkHop_bind fun _ _ => eat hs                                   -- read
        · exact wp_if (fun _ => hop hs) fun _ => wp_checkHop_bind fun _ _ => eat hs  -- next
        · exact wp_if (fun _ => hop hs) fun _ => hop hs                              -- peek
        · exact wp_checkHop_bind fun _ _ => eat hs                                   -- discard
        · exact hop hs                                                               -- inbuf
        · -- write
          refine wp_pop_bind fun t _ _ _ => ?_
          msplit
          exact wp_guard fun _ => hop hs
        · exact wp_dead
      · exact wp_dead
    | closeConns =>
      refine wp_get_bind ?_
      refine wp_peek_bind ?_
      split
      · exact wp_seq (K_target rfl (J_close G _ true fuel s hs.j) hs.nd) fun _ s1 h1 => ih _ rfl _ h1
      · exact wp_ret hs
    | _ => cases hw

theorem K_top (G : Prop) (fuel : Nat) (w : Work) (hw : topW w = true) (s : RState)
    (h : K G s.conns s.sysLog) :
    wp (exec fuel w) (fun _ s' => K G s'.conns s'.sysLog) s := by
  cases w with
  | accept | closeConns => exact K_untargeted G fuel _ rfl s h
  | processIO | elRead | elWrite | close | connWrite | connWritev | wake =>
    exact K_target rfl (J_target G _ fuel _ rfl s h.j) h.nd
  | _ => cases hw

theorem K_round (G : Prop) : RoundInv (fun s => K G s.conns s.sysLog) (fun s => K G s.conns s.sysLog) where
  congr h e1 e2 := by rw [e1, e2]; exact h
  congr1 h e1 e2 := by rw [e1, e2]; exact h
  weaken h := h
  settled h _ := h
  closeConns fuel s h := K_top G fuel .closeConns rfl s h
  exec fuel w hw s h := wp_mono (K_top G fuel w hw s h) fun _ _ h => ⟨h, fun _ => h⟩

end Gnet.Proofs.ReactorL
