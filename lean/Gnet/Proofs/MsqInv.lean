import Gnet.Model.Msq
import Gnet.Proofs.MsqChain
namespace Gnet.Proofs.Msq
open Gnet.Msq

/-- the thread has allocated its node but not yet linked it -/
def Pre : Pc → Bool
  | .eLoadTail | .eLoadNext | .eReloadTail | .eCasNext | .eHelpTail => true
  | _ => false

/-- lag of `length`: linked, not yet counted -/
def cntB (p : Pc) : Nat := if (p == .eCasTail || p == .eAdd) = true then 1 else 0
/-- lag of `length`: unlinked, not yet discounted -/
def subB (p : Pc) : Nat := if (p == .dSub) = true then 1 else 0

/-- what the snapshots of a thread still say about the chain `c`, with the shared head and tail at `h`
    and `t` -/
def Snap (val : Nat → Nat) (c : List Nat) (h t : Nat) (th : Thread) : Prop :=
  match th.pc with
  | .eLoadNext | .eCasNext => ∃ p, c[p]? = some th.tail ∧ p ≤ t
  | .eReloadTail =>
      ∃ p, c[p]? = some th.tail ∧ p ≤ t ∧ ∀ nx, th.next = some nx → c[p+1]? = some nx
  | .eHelpTail | .dHelpTail =>
      ∃ p, c[p]? = some th.tail ∧ ∀ nx, th.next = some nx → c[p+1]? = some nx
  | .eCasTail => ∃ p, c[p]? = some th.tail ∧ c[p+1]? = some th.node
  | .dLoadTail => ∃ ph, c[ph]? = some th.head ∧ ph ≤ h
  | .dLoadNext =>
      ∃ ph pt, c[ph]? = some th.head ∧ ph ≤ h ∧ c[pt]? = some th.tail ∧ pt ≤ t ∧ ph ≤ pt
  | .dReloadHead => ∃ ph pt, c[ph]? = some th.head ∧ c[pt]? = some th.tail ∧ pt ≤ t ∧ ph ≤ pt ∧
      (∀ nx, th.next = some nx → c[ph+1]? = some nx) ∧
      (th.next = none → ph = pt ∧ th.ghostSawEmpty = true)
  | .dCasHead => ∃ ph nx, c[ph]? = some th.head ∧ ph < t ∧ th.next = some nx ∧
      c[ph+1]? = some nx ∧ th.task = val nx
  | .dSub => th.ghostRet = some th.task
  | _ => True

structure InvW (s : State) (c : List Nat) (h t : Nat) : Prop where
  linked : Linked s.nodes c
  hd : c[h]? = some s.head
  tl : c[t]? = some s.tail
  ht : h ≤ t
  lag : c.length ≤ t + 2
  abs : s.absQ = (c.drop (h+1)).map (valueOf s)
  fifo : s.enqLog = s.deqLog ++ s.absQ
  len : s.length = (s.absQ.length : Int)
      - (s.threads.countP (fun t => t.pc == .eCasTail || t.pc == .eAdd) : Nat)
      + (s.threads.countP (fun t => t.pc == .dSub) : Nat)
  fresh : ∀ (tid : Nat) (th : Thread), s.threads[tid]? = some th → Pre th.pc = true →
      th.node ∉ c ∧ th.node < s.nodes.length
  snap : ∀ (tid : Nat) (th : Thread), s.threads[tid]? = some th → Snap (valueOf s) c h t th
  dist : ∀ (i j : Nat) (ti tj : Thread), s.threads[i]? = some ti → s.threads[j]? = some tj →
      Pre ti.pc = true → Pre tj.pc = true → ti.node = tj.node → i = j

def Inv (s : State) : Prop := ∃ c h t, InvW s c h t

theorem InvW.next {s : State} {c : List Nat} {h t p x : Nat} (I : InvW s c h t) (hp : c[p]? = some x) :
    nextOf s x = c[p+1]? := I.linked.cnext p x hp

theorem InvW.absQ_head {s : State} {c : List Nat} {h t nx : Nat} (I : InvW s c h t)
    (hnx : c[h+1]? = some nx) : s.absQ.head? = some (valueOf s nx) := by
  rw [I.abs, List.head?_map, List.head?_drop, hnx]; rfl

/-- the chain only grows at the end, head and tail only move forward, values never change -/
theorem Snap.frame {val val' : Nat → Nat} {c l : List Nat} {h h' t t' : Nat} {th : Thread}
    (hT : Snap val c h t th) (hh : h ≤ h') (ht : t ≤ t') (hv : ∀ x ∈ c, val' x = val x) :
    Snap val' (c ++ l) h' t' th := by
  cases hpc : th.pc <;> simp only [Snap, hpc] at hT ⊢
  case eLoadNext | eCasNext | dLoadTail =>
    obtain ⟨p, a, b⟩ := hT
    exact ⟨p, getElem?_append_of a, by omega⟩
  case eReloadTail =>
    obtain ⟨p, a, b, d⟩ := hT
    exact ⟨p, getElem?_append_of a, by omega, fun nx e => getElem?_append_of (d nx e)⟩
  case eCasTail =>
    obtain ⟨p, a, b⟩ := hT
    exact ⟨p, getElem?_append_of a, getElem?_append_of b⟩
  case eHelpTail | dHelpTail =>
    obtain ⟨p, a, d⟩ := hT
    exact ⟨p, getElem?_append_of a, fun nx e => getElem?_append_of (d nx e)⟩
  case dLoadNext =>
    obtain ⟨ph, pt, a, b, d, e, f⟩ := hT
    exact ⟨ph, pt, getElem?_append_of a, by omega, getElem?_append_of d, by omega, f⟩
  case dReloadHead =>
    obtain ⟨ph, pt, a, d, e, f, g, k⟩ := hT
    exact ⟨ph, pt, getElem?_append_of a, getElem?_append_of d, by omega, f,
      fun nx e => getElem?_append_of (g nx e), k⟩
  case dCasHead =>
    obtain ⟨ph, nx, a, d, e, f, g⟩ := hT
    exact ⟨ph, nx, getElem?_append_of a, by omega, e, getElem?_append_of f,
      by rw [g, hv nx (List.mem_of_getElem? f)]⟩
  case dSub => exact hT

/-- `habs` is stated with the old `valueOf s` so that callers rewrite with `I.abs` (`hv` converts); `hlen` is
    the `len` field with the other threads' terms cancelled -/
theorem InvW.update {s s' : State} {c c' l : List Nat} {h t h' t' tid : Nat} {th th' : Thread}
    (I : InvW s c h t) (hth : s.threads[tid]? = some th)
    (hthreads : s'.threads = s.threads.set tid th') (hc : c' = c ++ l) (L : Linked s'.nodes c')
    (hnl : s.nodes.length ≤ s'.nodes.length)
    (hv : ∀ x ∈ c', valueOf s' x = valueOf s x)
    (hh : h ≤ h') (hht : h' ≤ t') (htt : t ≤ t') (hlag : c'.length ≤ t' + 2)
    (hhd : c'[h']? = some s'.head) (htl : c'[t']? = some s'.tail)
    (habs : s'.absQ = (c'.drop (h'+1)).map (valueOf s))
    (hfifo : s'.enqLog = s'.deqLog ++ s'.absQ)
    (hlen : s'.length - (s'.absQ.length : Int) + (cntB th'.pc : Nat) - (subB th'.pc : Nat)
          = s.length - (s.absQ.length : Int) + (cntB th.pc : Nat) - (subB th.pc : Nat))
    (hfresh : Pre th'.pc = true → th'.node ∉ c' ∧ th'.node < s'.nodes.length)
    (hsnap : Snap (valueOf s') c' h' t' th')
    (hl : ∀ j u, j ≠ tid → s.threads[j]? = some u → Pre u.pc = true →
      u.node ∉ l ∧ (Pre th'.pc = true → u.node ≠ th'.node)) :
    InvW s' c' h' t' := by
  subst hc
  refine ⟨L, hhd, htl, hht, hlag, ?_, hfifo, ?_, ?_, ?_, ?_⟩
  · exact habs.trans (List.map_congr_left fun x hx => (hv x (List.mem_of_mem_drop hx)).symm)
  · have h1 := countP_set_add (fun t => t.pc == .eCasTail || t.pc == .eAdd) th' hth
    have h2 := countP_set_add (fun t => t.pc == .dSub) th' hth
    have h3 := I.len
    rw [hthreads]
    simp only [cntB, subB] at hlen
    omega
  · intro j u hu pu
    rw [hthreads] at hu
    rcases getElem?_set_cases hu with ⟨_, rfl⟩ | ⟨hj, hu'⟩
    · exact hfresh pu
    · have a := hl j u hj hu' pu
      exact ⟨by simpa using ⟨(I.fresh j u hu' pu).1, a.1⟩,
        Nat.lt_of_lt_of_le (I.fresh j u hu' pu).2 hnl⟩
  · intro j u hu
    rw [hthreads] at hu
    rcases getElem?_set_cases hu with ⟨_, rfl⟩ | ⟨_, hu'⟩
    · exact hsnap
    · exact (I.snap j u hu').frame hh htt fun x hx => hv x (List.mem_append_left l hx)
  · intro i j ti tj hi hj pi pj hij
    rw [hthreads] at hi hj
    rcases getElem?_set_cases hi with ⟨rfl, rfl⟩ | ⟨hne1, hi'⟩ <;>
    rcases getElem?_set_cases hj with ⟨rfl, rfl⟩ | ⟨hne2, hj'⟩
    · rfl
    · exact absurd hij.symm ((hl _ tj hne2 hj' pj).2 pi)
    · exact absurd hij ((hl _ ti hne1 hi' pi).2 pj)
    · exact I.dist _ _ ti tj hi' hj' pi pj hij

theorem InvW.same {s : State} {c : List Nat} {h t h' t' tid hd tl : Nat} {len : Int}
    {a e d : List Nat} {th th' : Thread}
    (I : InvW s c h t) (hth : s.threads[tid]? = some th)
    (hh : h ≤ h') (hht : h' ≤ t') (htt : t ≤ t') (hhd : c[h']? = some hd) (htl : c[t']? = some tl)
    (habs : a = (c.drop (h'+1)).map (valueOf s)) (hfifo : e = d ++ a)
    (hlen : len - (a.length : Int) + (cntB th'.pc : Nat) - (subB th'.pc : Nat)
          = s.length - (s.absQ.length : Int) + (cntB th.pc : Nat) - (subB th.pc : Nat))
    (hpre : Pre th'.pc = true → Pre th.pc = true) (hn : th'.node = th.node)
    (hsnap : Snap (valueOf s) c h' t' th') :
    InvW (setThread { s with head := hd, tail := tl, length := len, absQ := a, enqLog := e, deqLog := d }
      tid th') c h' t' := by
  refine I.update (l := []) hth rfl (List.append_nil c).symm I.linked (Nat.le_refl _) (fun _ _ => rfl)
    hh hht htt (by have := I.lag; omega) hhd htl habs hfifo hlen ?_ hsnap ?_
  · intro p; rw [hn]; exact I.fresh tid th hth (hpre p)
  · intro j u hj hu pu
    refine ⟨List.not_mem_nil, fun p e => hj ?_⟩
    exact I.dist j tid u th hu hth pu (hpre p) (e.trans hn)

/-- a transition between these pcs is no linearisation point, counter update or allocation -/
def Quiet (p p' : Pc) : Bool := (!Pre p' || Pre p) && cntB p' == cntB p && subB p' == subB p

theorem InvW.quiet {s : State} {c : List Nat} {h t t' tid tl : Nat} {p : Pc} {th th' : Thread}
    (I : InvW s c h t) (hth : s.threads[tid]? = some th) (hpc : th.pc = p)
    (hq : Quiet p th'.pc = true) (hn : th'.node = th.node) (htt : t ≤ t') (htl : c[t']? = some tl)
    (hsnap : Snap (valueOf s) c h t' th') :
    InvW (setThread { s with tail := tl } tid th') c h t' := by
  subst hpc
  simp only [Quiet, Bool.and_eq_true, Bool.or_eq_true, Bool.not_eq_true', beq_iff_eq] at hq
  refine I.same hth (Nat.le_refl _) (Nat.le_trans I.ht htt) htt I.hd htl I.abs I.fifo ?_ ?_ hn hsnap
  · rw [hq.1.2, hq.2]
  · intro p; rcases hq.1.1 with h | h
    · rw [h] at p; cases p
    · exact h

theorem InvW.local {s : State} {c : List Nat} {h t tid : Nat} {p : Pc} {th th' : Thread}
    (I : InvW s c h t) (hth : s.threads[tid]? = some th) (hpc : th.pc = p)
    (hq : Quiet p th'.pc = true) (hn : th'.node = th.node) (hsnap : Snap (valueOf s) c h t th') :
    Inv (setThread s tid th') :=
  ⟨c, h, t, I.quiet hth hpc hq hn (Nat.le_refl _) I.tl hsnap⟩

theorem InvW.casTail {s : State} {c : List Nat} {h t tid p x : Nat} {pc : Pc} {th th' : Thread}
    (I : InvW s c h t) (hth : s.threads[tid]? = some th) (hpc : th.pc = pc)
    (hq : Quiet pc th'.pc = true) (hn : th'.node = th.node)
    (hp : c[p]? = some th.tail) (hx : c[p+1]? = some x) (hsnap : ∀ t', Snap (valueOf s) c h t' th') :
    Inv (setThread (if s.tail = th.tail then { s with tail := x } else s) tid th') := by
  split
  · rename_i heq
    obtain rfl : p = t := nodup_idx I.linked.nodup hp (heq ▸ I.tl)
    exact ⟨c, h, p+1, I.quiet hth hpc hq hn (Nat.le_succ _) hx (hsnap _)⟩
  · exact I.local hth hpc hq hn (hsnap _)

theorem InvW.settle {s : State} {c : List Nat} {h t tid : Nat} {len : Int} {th : Thread}
    (I : InvW s c h t) (hth : s.threads[tid]? = some th)
    (hlen : len = s.length + (cntB th.pc : Nat) - (subB th.pc : Nat)) :
    Inv (setThread { s with length := len } tid { th with pc := .idle }) :=
  ⟨c, h, t, I.same hth (Nat.le_refl _) I.ht (Nat.le_refl _) I.hd I.tl I.abs I.fifo
    (by subst hlen; show _ + ((0 : Nat) : Int) - ((0 : Nat) : Int) = _; omega) nofun rfl trivial⟩

end Gnet.Proofs.Msq
