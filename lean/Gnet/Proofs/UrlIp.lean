/-
  tcp*/udp* addresses.  After the scheme everything is text over `plain` and '%' (`PlainP`), which
  `url.Parse` hands to `parseHost` in one piece and `parseHost` reads back as written however it
  cuts it (`unescape_escape_plainP`).
-/
import Gnet.Proofs.UrlParse
namespace Gnet.Proofs.Url
open Gnet Gnet.Url

theorem digits_plain {p : Bytes} (h : p.all isDigit = true) : Plain p :=
  Plain.of_all plain_of_digit h

theorem bracketPort_plainP {p : Bytes} (h : p.all isDigit = true) : PlainP (']' :: ':' :: p) :=
  (((digits_plain h).cons (by decide)).cons (by decide)).plainP

theorem not_mem_digits {p : Bytes} (h : p.all isDigit = true) {c : Char} (hc : isDigit c = false) :
    c ∉ p := not_mem_of_forall (List.all_eq_true.1 h) (by simp [hc])

theorem parseHost_name {h port : Bytes} (hh : Plain h) (hb : '[' ∉ h)
    (hp : port.all isDigit = true) : parseHost (h ++ ':' :: port) = some (h ++ ':' :: port) := by
  have hhead : (h ++ ':' :: port).head? ≠ some '[' := fun e => by
    cases h with
    | nil => cases e
    | cons => exact hb (List.mem_of_head? e)
  rw [parseHost, if_neg hhead, splitLast_append (not_mem_digits hp (by decide))]
  simp only [hp, if_true]
  exact unescape_host_plain (hh.append ((digits_plain hp).cons (by decide)))

/-- The text up to the last ']' is cut at the first "%25" (a zone) or not at all. -/
theorem parseHost_bracket {b port : Bytes} (hb : PlainP ('[' :: b)) (hp : port.all isDigit = true) :
    parseHost (escapePercent ('[' :: b ++ ']' :: ':' :: port)) =
      some ('[' :: b ++ ']' :: ':' :: port) := by
  have ht : escapePercent (']' :: ':' :: port) = ']' :: ':' :: port :=
    congrArg (']' :: ':' :: ·) (escapePercent_id (not_mem_digits hp (by decide)))
  have hpt := bracketPort_plainP hp
  have hno : ']' ∉ ':' :: port := by simp [not_mem_digits hp (c := ']') (by decide)]
  rw [escapePercent_append, ht, parseHost, if_pos (show List.head? _ = some '[' from rfl),
    splitLast_append hno]
  simp only [validOptionalPort, hp, decide_true, Bool.and_self, Bool.not_true, Bool.false_eq_true,
    if_false]
  rw [splitPct25_escape]
  by_cases hm : '%' ∈ '[' :: b
  · have h1 : PlainP (('[' :: b).takeWhile (· ≠ '%')) := fun c hc =>
      hb c (List.takeWhile_subset _ hc)
    have h2 : PlainP (('[' :: b).dropWhile (· ≠ '%')) := fun c hc =>
      hb c (List.dropWhile_subset _ hc)
    simp only [if_pos hm, unescape_escape_plainP (.inl rfl) h1,
      unescape_escape_plainP (.inr rfl) h2, ht ▸ unescape_escape_plainP (.inl rfl) hpt,
      List.takeWhile_append_dropWhile]
  · rw [if_neg hm]
    have := unescape_escape_plainP (.inl rfl) (hb.append hpt)
    rwa [escapePercent_append, ht] at this

-- stated for `h ++ t`, so that `rw` hits `h ++ ':' :: port` in the address directly
theorem bracket_shape {h : Bytes} (hh : isV6Host h = true ∨ isV6ZoneHost h = true) :
    ∃ b, PlainP ('[' :: b) ∧ ∀ t, h ++ t = '[' :: b ++ ']' :: t := by
  have hbr : plain '[' = true ∨ '[' = '%' := .inl (by decide)
  simp only [isV6Host, isV6ZoneHost, Bool.and_eq_true, decide_eq_true_eq] at hh
  rcases hh with ⟨⟨e, -⟩, ha⟩ | ⟨⟨⟨⟨e, -⟩, ha⟩, -⟩, hz⟩
  · exact ⟨_, List.forall_mem_cons.2 ⟨hbr, (Plain.of_all plain_of_hexColon ha).plainP⟩,
      fun t => (congrArg (· ++ t) e).trans (by simp)⟩
  · have hzone : PlainP ('%' :: v6Zone h) :=
      List.forall_mem_cons.2 ⟨.inr rfl, (Plain.of_all plain_of_zone hz).plainP⟩
    exact ⟨_ ++ '%' :: _,
      List.forall_mem_cons.2 ⟨hbr, (Plain.of_all plain_of_hexColon ha).plainP.append hzone⟩,
      fun t => (congrArg (· ++ t) e).trans (by simp)⟩

theorem urlParse_ip {s h port : Bytes} (hs : isSchemeWord s = true) (hh : isIpHost h = true)
    (hp : port.all isDigit = true) :
    urlParse (escapePercent (s ++ ':' :: '/' :: '/' :: (h ++ ':' :: port))) =
      .ok s (h ++ ':' :: port) [] := by
  have key : PlainP (h ++ ':' :: port) ∧
      parseHost (escapePercent (h ++ ':' :: port)) = some (h ++ ':' :: port) := by
    simp only [isIpHost, isNameHost, Bool.or_eq_true, Bool.and_eq_true, decide_eq_true_eq] at hh
    rcases or_assoc.1 hh with ⟨_, hh⟩ | hh
    · have hpl := Plain.of_all plain_of_name hh
      have hall : Plain (h ++ ':' :: port) := hpl.append ((digits_plain hp).cons (by decide))
      rw [escapePercent_id (not_mem_of_forall hall (by decide))]
      exact ⟨hall.plainP,
        parseHost_name hpl (not_mem_of_forall (List.all_eq_true.1 hh) (by decide)) hp⟩
    · obtain ⟨b, hb, e⟩ := bracket_shape hh
      rw [e]
      exact ⟨hb.append (bracketPort_plainP hp), parseHost_bracket hb hp⟩
  have := urlParse_escaped (p := []) hs key.1 nofun nofun
  rwa [List.append_nil, key.2] at this

theorem urlParse_v6_noScheme {h port : Bytes} (hh : isV6Host h = true ∨ isV6ZoneHost h = true)
    (hp : port.all isDigit = true) : urlParse (escapePercent (h ++ ':' :: port)) = .error := by
  obtain ⟨b, hb, e⟩ := bracket_shape hh
  rw [e]
  -- `escapePercent` computes past the literal '['
  exact urlParse_colon (r := escapePercent (b ++ ']' :: ':' :: port))
    (hb.append (bracketPort_plainP hp)).escape (by simp [escapePercent_append, escapePercent_cons])

theorem urlParse_name_noScheme {h port : Bytes} (hh : isSchemeWord h = true)
    (hp : port.all isDigit = true) :
    urlParse (escapePercent (h ++ ':' :: port)) = .ok h [] [] := by
  have hpl : Plain (h ++ ':' :: port) :=
    (schemeWord_plain hh).append ((digits_plain hp).cons (by decide))
  rw [escapePercent_id (not_mem_of_forall hpl (by decide))]
  rw [urlParse_scheme hh (digits_plain hp).plainP.safe, if_pos fun e => ?_]
  exact not_mem_of_forall (digits_plain hp) (by decide) (List.mem_of_head? e)

end Gnet.Proofs.Url
