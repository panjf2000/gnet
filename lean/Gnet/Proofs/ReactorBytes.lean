/-
  C01 / C02: inbound and outbound byte accounting are invariants of accepted rounds, by one induction on
  the fuel of `exec` over all works at once; `Good A B 2 s "" (Lv A B 2)` is then read back as the
  invariants of the specification.
-/
import Gnet.Proofs.ReactorSteps
namespace Gnet.Reactor
open Gnet.Proofs.ReactorL
variable {A B : Prop}

theorem specs (A B : Prop) : ∀ fuel, Specs A B fuel
  | 0 => by constructor <;> (intros; exact (wp_elim (Q := fun _ _ => False) (exec_zero ..) ‹_›).elim)
  | fuel + 1 => (specs A B fuel).step

theorem Good.after_read {s : RState} {c : String} {r : Ret} (hG : Good A B 2 s c (AfterRead A B r)) :
    Good A B 1 s "" (Lv A B 1) ∧ (r.code ≠ .shutdown → Good A B 2 s "" (Lv A B 2)) := by
  refine ⟨.of_all hG.nodup fun p hp => ?_, fun hne => (hG.mono fun x hx => hx.2 hne).retarget ""⟩
  by_cases hc : p.1 = c
  · exact (hG.here p hp hc).1
  · exact Lv.of_two (hG.others p hp hc)

theorem Good.relax {s : RState} {c : String} (hG : Good A B 2 s c (Lv A B 2)) : Good A B 1 s "" (Lv A B 1) :=
  .of_all hG.nodup fun p hp => Lv.of_two (hG.all p hp)

theorem Good.all_closed {s : RState} (hG : Good A B 1 s "" (Lv A B 1))
    (hreg : ¬ (s.conns.any (·.2.registered)) = true) : Good A B 2 s "" (Lv A B 2) := by
  refine .of_all hG.nodup fun p hp => Lv.closed ?_
  cases ho : p.2.opened
  · rfl
  · exact absurd (List.any_eq_true.mpr ⟨p, hp, Lv.reg (Nat.le_refl 1) (hG.all p hp) ho⟩) hreg

theorem Good.set_tasks' {ko : Nat} {s : RState} {c : String} {Ψ : Conn → Prop} (f : List Task → List Task)
    (hG : Good A B ko s c Ψ) : Good A B ko { s with tasks := f s.tasks } c Ψ := hG.congr rfl

/-- at rest (level 2) between the items; level 1 when a handler has asked for Shutdown with the rest of a read
    still in `buffer` -/
theorem good_round :
    RoundInv (fun s => Good A B 2 s "" (Lv A B 2)) (fun s => Good A B 1 s "" (Lv A B 1)) where
  congr hG e _ := hG.congr e
  congr1 hG e _ := hG.congr e
  weaken := Good.relax
  settled hG hreg := hG.all_closed hreg
  closeConns fuel _ hG := wp_use ((specs A B fuel).closeConns _ _) hG
  exec fuel w hw s hG := by
    have ih := specs A B fuel
    have rest : ∀ {s : RState} {c : String} {r : Ret}, Good A B 2 s c (Lv A B 2) →
        Good A B 1 s "" (Lv A B 1) ∧ (r.code ≠ .shutdown → Good A B 2 s "" (Lv A B 2)) :=
      fun hG => ⟨hG.relax, fun _ => hG.retarget ""⟩
    cases w with
    | accept => exact wp_mono (wp_use (ih.accept _ _ _) (hG.retarget _)) fun _ _ hG => rest hG
    | processIO => exact wp_mono (wp_use (ih.processIO _ _ _ _) (hG.retarget _)) fun _ _ hG => hG.after_read
    | elRead => exact wp_mono (wp_use (ih.elRead _ _ _) (hG.retarget _)) fun _ _ hG => hG.after_read
    | elWrite => exact wp_mono (wp_use (ih.elWrite _ _ 2 _) (hG.retarget _)) fun _ _ hG => rest hG
    | close => exact wp_mono (ih.close_lv (hG.retarget _)) fun _ _ hG => rest hG
    | connWrite => exact wp_mono (wp_use (ih.connWrite _ _ _ 2 _) (hG.retarget _)) fun _ _ hG => rest hG
    | connWritev => exact wp_mono (wp_use (ih.connWritev _ _ _ 2 _) (hG.retarget _)) fun _ _ hG => rest hG
    | wake => exact wp_mono (wp_use (ih.wake _ _ 2 _) (hG.retarget _)) fun _ _ hG => rest hG
    | closeConns => exact wp_mono (wp_use (ih.closeConns _ _) hG) fun _ _ hG => rest hG
    | _ => cases hw

end Gnet.Reactor

namespace Gnet.Proofs.ReactorBytes
open Gnet.Reactor

theorem good_iff {A B : Prop} {s : RState} :
    Good A B 2 s "" (Lv A B 2) ↔ NamesNodup s ∧ Quiet s ∧ (A → InvIn s) ∧ (B → InvOut s) := by
  constructor
  · intro hG
    have h2 := fun p hp => (hG.all p hp).resolve_left (by decide)
    exact ⟨hG.nodup, fun p hp ho => ⟨(h2 p hp ho).1, (h2 p hp ho).2.1 rfl⟩,
      fun a p hp ho => (h2 p hp ho).2.2.1 a, fun b p hp ho => (h2 p hp ho).2.2.2 b⟩
  · rintro ⟨hn, hq, hi, ho⟩
    exact .of_all hn fun p hp => Or.inr fun hop =>
      ⟨(hq p hp hop).1, fun _ => (hq p hp hop).2, fun a => hi a p hp hop, fun b => ho b p hp hop⟩

/-- C01 and C02 in one statement, each switched on or off -/
theorem accounting (A B : Prop) {s s' : RState} {toks : List Tok} (h : acceptRound s toks = .ok s')
    (hs : NamesNodup s ∧ Quiet s ∧ (A → InvIn s) ∧ (B → InvOut s)) :
    NamesNodup s' ∧ Quiet s' ∧ (A → InvIn s') ∧ (B → InvOut s') :=
  good_iff.mp (good_round.acceptRound h ((good_iff.mpr hs).congr rfl))

theorem inbound_integrity (s s' : RState) (toks : List Tok) (hn : NamesNodup s)
    (h : acceptRound s toks = .ok s') (hi : InvIn s) (hq : Quiet s) : InvIn s' ∧ Quiet s' ∧ NamesNodup s' :=
  have ⟨hn', hq', hi', _⟩ := accounting True False h ⟨hn, hq, fun _ => hi, False.elim⟩
  ⟨hi' trivial, hq', hn'⟩

theorem inbound_init (cfg : Cfg) : InvIn { cfg := cfg } ∧ Quiet { cfg := cfg } ∧ NamesNodup { cfg := cfg } :=
  ⟨fun _ hp => (by cases hp), fun _ hp => (by cases hp), List.nodup_nil⟩

theorem outbound_integrity (s s' : RState) (toks : List Tok) (hn : NamesNodup s)
    (h : acceptRound s toks = .ok s') (ho : InvOut s) (hq : Quiet s) : InvOut s' ∧ Quiet s' ∧ NamesNodup s' :=
  have ⟨hn', hq', _, ho'⟩ := accounting False True h ⟨hn, hq, False.elim, fun _ => ho⟩
  ⟨ho' trivial, hq', hn'⟩

theorem outbound_init (cfg : Cfg) : InvOut { cfg := cfg } := fun _ hp => by cases hp

end Gnet.Proofs.ReactorBytes
