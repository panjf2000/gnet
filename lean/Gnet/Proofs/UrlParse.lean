/-
  `url.Parse` (model) on  scheme ":" text  and on text without a scheme that has a ':' in its first
  segment.
-/
import Gnet.Proofs.UrlBasic
namespace Gnet.Proofs.Url
open Gnet Gnet.Url

theorem schemeWord_cases {s : Bytes} (hs : isSchemeWord s = true) :
    ∃ c cs, s = c :: cs ∧ isLower c = true ∧ ∀ x ∈ cs, (isLower x || isDigit x) = true := by
  cases s with
  | nil => cases hs
  | cons c cs => exact ⟨c, cs, rfl, by simpa [isSchemeWord] using hs⟩

theorem schemeWord_lowerDigit {s : Bytes} (hs : isSchemeWord s = true) :
    ∀ x ∈ s, (isLower x || isDigit x) = true := by
  obtain ⟨c, cs, rfl, hc, hcs⟩ := schemeWord_cases hs
  exact List.forall_mem_cons.2 ⟨by simp [hc], hcs⟩

theorem schemeWord_plain {s : Bytes} (hs : isSchemeWord s = true) : Plain s := fun c hc =>
  (Bool.or_eq_true _ _ ▸ schemeWord_lowerDigit hs c hc).elim plain_of_lower plain_of_digit

theorem lowerWord_schemeWord {s : Bytes} (hs : isLowerWord s = true) : isSchemeWord s = true := by
  cases s with
  | nil => cases hs
  | cons c cs =>
    simp only [isLowerWord, List.all_cons, Bool.and_eq_true, List.all_eq_true] at hs
    simpa [isSchemeWord, hs.2.1] using fun x hx => Or.inl (hs.2.2 x hx)

theorem getSchemeGo_word {raw rest s pre : Bytes} (hs : ∀ c ∈ s, (isLower c || isDigit c) = true)
    (hp : pre ≠ []) : getSchemeGo raw pre (s ++ ':' :: rest) = .ok (pre ++ s) rest := by
  induction s generalizing pre with
  | nil =>
    simp [getSchemeGo, hp, show isAlpha ':' = false by decide, show isDigit ':' = false by decide]
  | cons x xs ih =>
    rw [List.forall_mem_cons] at hs
    have := ih hs.2 (pre := pre ++ [x]) (by simp)
    rw [List.cons_append, getSchemeGo]
    by_cases ha : isAlpha x = true
    · rw [if_pos ha]; simpa using this
    · have hd : isDigit x = true := by
        simp only [isAlpha, Bool.or_eq_true, not_or] at ha; simpa [ha.1] using hs.1
      rw [if_neg ha, if_pos (by simp [hd]), if_neg hp]; simpa using this

theorem getScheme_word {s rest : Bytes} (hs : isSchemeWord s = true) :
    getScheme (s ++ ':' :: rest) = .ok s rest := by
  obtain ⟨c, cs, rfl, hc, hcs⟩ := schemeWord_cases hs
  rw [getScheme, List.cons_append, getSchemeGo, if_pos (by simp [isAlpha, hc]),
    getSchemeGo_word hcs (by simp)]
  rfl

theorem toLower_word {s : Bytes} (hs : ∀ x ∈ s, (isLower x || isDigit x) = true) :
    s.map toLowerAscii = s := by
  rw [List.map_congr_left (g := id) fun x hx => by
    simp [toLowerAscii, lowerDigit_notUpper (hs x hx)], List.map_id]

theorem urlParse_noFrag {raw : Bytes} (h : '#' ∉ raw) : urlParse raw = parseNoFrag raw := by
  unfold urlParse
  simp only [cut_all h, List.drop_nil]
  cases parseNoFrag raw <;> rfl

theorem urlParse_scheme {s r : Bytes} (hs : isSchemeWord s = true) (hr : Safe r) :
    urlParse (s ++ ':' :: r) =
      if r.head? ≠ some '/' then .ok s [] []
      else if ['/', '/'].isPrefixOf r then
        match parseAuthority ((r.drop 2).takeWhile (· ≠ '/')) with
        | none => .error
        | some host =>
          match unescape .path ((r.drop 2).dropWhile (· ≠ '/')) with
          | none => .error
          | some p => .ok s host p
      else
        match unescape .path r with
        | none => .error
        | some p => .ok s [] p := by
  have hne : s ≠ [] := by rintro rfl; cases hs
  have hall : Safe (s ++ ':' :: r) :=
    (schemeWord_plain hs).plainP.safe.append (List.forall_mem_cons.2 ⟨by decide, hr⟩)
  have hstar : s ++ ':' :: r ≠ ['*'] := by
    obtain ⟨c, cs, rfl, -⟩ := schemeWord_cases hs; simp
  rw [urlParse_noFrag (not_mem_of_forall hall (by decide)), parseNoFrag, hall.noCTL,
    if_neg (by simp), if_neg hstar, getScheme_word hs]
  simp only [toLower_word (schemeWord_lowerDigit hs),
    cut_all (not_mem_of_forall hr (by decide) : '?' ∉ r)]
  by_cases h : r.head? ≠ some '/'
  · rw [if_pos ⟨h, hne⟩, if_pos h]
  · rw [if_neg fun hh => h hh.1, if_neg fun hh => h hh.1, if_neg h]
    by_cases hp : ['/', '/'].isPrefixOf r = true
    · rw [if_pos ⟨hp, .inl hne⟩, if_pos hp]; rfl
    · rw [if_neg fun hh => hp hh.1, if_neg hp]; rfl

/-- '[' in front rules out a scheme; Go's "first path segment in URL cannot contain colon". -/
theorem urlParse_colon {r : Bytes} (h : PlainP ('[' :: r)) (hc : ':' ∈ r) :
    urlParse ('[' :: r) = .error := by
  rw [urlParse_noFrag (not_mem_of_forall h.safe (by decide)), parseNoFrag, h.safe.noCTL,
    if_neg (by simp), if_neg (by simp), show getScheme ('[' :: r) = .ok [] _ from rfl]
  simp only [List.map_nil, cut_all (not_mem_of_forall h.safe (by decide) : '?' ∉ _),
    cut_all (not_mem_of_forall h (by decide) : '/' ∉ _)]
  -- not opaque (no scheme); the first segment contains ':'
  rw [if_neg (by simp), if_pos ⟨by simp, by simp [hc]⟩]

theorem parseAuthority_noAt {au : Bytes} (h : '@' ∉ au) : parseAuthority au = parseHost au := by
  unfold parseAuthority; rw [splitLast_none h]

theorem urlParse_escaped {s au p : Bytes} (hs : isSchemeWord s = true) (hau : PlainP au)
    (hp : ∀ c ∈ p, plain c = true ∨ c = '/') (hpl : ∀ x ∈ p.head?, x = '/') :
    urlParse (escapePercent (s ++ ':' :: '/' :: '/' :: (au ++ p))) =
      match parseHost (escapePercent au) with
      | none => .error
      | some h => .ok s h p := by
  have hesc := hau.escape
  have hpct : '%' ∉ p := not_mem_of_forall hp (by decide)
  have hr : Safe ('/' :: '/' :: (escapePercent au ++ p)) :=
    List.forall_mem_cons.2 ⟨by decide, List.forall_mem_cons.2 ⟨by decide,
      hesc.safe.append fun c hc => (hp c hc).elim plain_safe (by rintro rfl; decide)⟩⟩
  rw [escapePercent_append, escapePercent_id (not_mem_of_forall (schemeWord_plain hs) (by decide))]
  -- `escapePercent` computes past the literal "://"
  show urlParse (s ++ ':' :: '/' :: '/' :: escapePercent (au ++ p)) = _
  rw [escapePercent_append, escapePercent_id hpct, urlParse_scheme hs hr, if_neg (by simp),
    if_pos (by simp [List.isPrefixOf])]
  simp only [List.drop_succ_cons, List.drop_zero,
    cut_append (not_mem_of_forall (c := '/') hesc (by decide)) hpl]
  rw [parseAuthority_noAt (not_mem_of_forall (c := '@') hesc (by decide)),
    unescape_path_id hpct]

end Gnet.Proofs.Url
