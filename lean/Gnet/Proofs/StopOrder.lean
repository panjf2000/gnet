/-
  With the request made and everything exited no guard of the stopper blocks: each of its steps moves the pc
  to `nextPc`.
-/
import Gnet.Model.StopOrder
namespace Gnet.Proofs.StopOrder
open Gnet.Engine Gnet.StopOrder

def nextPc : StopPc → StopPc
  | .waitCtx => .onShutdown | .onShutdown => .postSentinels | .postSentinels => .waitGroup
  | .waitGroup => .closeLoops | .closeLoops => .setFlag | .setFlag => .returned | .returned => .returned

def iter : Nat → StopPc → StopPc
  | 0, pc => pc
  | k + 1, pc => iter k (nextPc pc)

theorem stopper_step (s : State) (hc : s.ctxCancelled = true) (he : allExited s = true) :
    (step s .stopper).stopPc = nextPc s.stopPc ∧ (step s .stopper).ctxCancelled = true ∧
    allExited (step s .stopper) = true := by
  cases hp : s.stopPc <;> simp only [step, hp, hc, he, if_true, nextPc, true_and]
  -- only `postSentinels` touches the loops, and not their `st`
  case postSentinels => simpa [allExited, List.all_map, Function.comp_def] using he
  all_goals exact he

theorem pcAfter_eq (k : Nat) (s : State) (hc : s.ctxCancelled = true) (he : allExited s = true) :
    pcAfter s k = iter k s.stopPc := by
  induction k generalizing s with
  | zero => rfl
  | succ k ih =>
    have h := stopper_step s hc he
    exact (ih _ h.2.1 h.2.2).trans (congrArg _ h.1)

theorem stopper_order (s : State) (h0 : s.stopPc = .waitCtx) (hc : s.ctxCancelled = true)
    (he : allExited s = true) :
    (List.range 7).map (pcAfter s) = order ++ [.returned] := by
  have e : ∀ k, pcAfter s k = iter k .waitCtx := fun k => h0 ▸ pcAfter_eq k s hc he
  simp only [List.range, List.range.loop, List.map, e]
  rfl
end Gnet.Proofs.StopOrder
