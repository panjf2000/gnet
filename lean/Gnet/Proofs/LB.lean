import Gnet.Model.LB
import Gnet.Proofs.ListFacts
/-
  C15. Round robin: `k` calls are the residues of `k` consecutive integers, and `k * N` consecutive
  integers hit each residue mod `N` exactly `k` times. Least connections: opening on a minimal loop keeps
  `Balanced`.
-/
namespace Gnet.Proofs.LB
open Gnet

def rrRun (lb : LB) : Nat → List Nat
  | 0 => []
  | k + 1 => match lb.rrNext with
    | none => []
    | some (i, lb') => i :: rrRun lb' k

theorem rrNext_eq (lb : LB) (hn : 0 < lb.size) :
    lb.rrNext = some (lb.nextIndex.toNat % lb.size, { lb with nextIndex := lb.nextIndex + 1 }) :=
  if_neg (Nat.ne_of_gt hn)

theorem rr_in_range (lb : LB) (hn : 0 < lb.size) : ∃ i lb', lb.rrNext = some (i, lb') ∧ i < lb.size ∧
    lb'.counts = lb.counts ∧ lb'.nextIndex = lb.nextIndex + 1 :=
  ⟨_, _, rrNext_eq lb hn, Nat.mod_lt _ hn, rfl, rfl⟩

theorem rrRun_succ (lb : LB) (hn : 0 < lb.size) (k : Nat) :
    rrRun lb (k + 1) = lb.nextIndex.toNat % lb.size :: rrRun { lb with nextIndex := lb.nextIndex + 1 } k := by
  rw [rrRun, rrNext_eq lb hn]

theorem rr_cyclic (lb : LB) (hn : 0 < lb.size) (k : Nat) :
    rrRun lb k = (List.range k).map (fun i => (lb.nextIndex.toNat + i) % 2 ^ 64 % lb.size) := by
  induction k generalizing lb with
  | zero => rfl
  | succ k ih =>
    rw [rrRun_succ lb hn, ih { lb with nextIndex := lb.nextIndex + 1 } hn, List.range_succ_eq_map,
      List.map_cons, List.map_map, Nat.add_zero, Nat.mod_eq_of_lt lb.nextIndex.isLt]
    congr 2
    funext i
    -- the incremented counter may have wrapped
    show ((lb.nextIndex.toNat + 1) % 2 ^ 64 + i) % 2 ^ 64 % lb.size = _
    rw [Nat.mod_add_mod, Nat.add_assoc, Nat.add_comm 1 i]
    rfl

theorem count_window (n j : Nat) (hj : j < n) (s : Nat) :
    ((List.range' s n).map (· % n)).count j = 1 := by
  induction s with
  | zero =>
    have : (List.range n).map (· % n) = (List.range n).map id :=
      List.map_congr_left fun i hi => Nat.mod_eq_of_lt (List.mem_range.1 hi)
    rw [← List.range_eq_range', this, List.map_id, List.count_range, if_pos hj]
  | succ s ih =>
    -- `s :: range' (s+1) n` and `range' s n ++ [s+n]` are the same list, and `(s+n) % n = s % n`
    have := congrArg (fun l => (l.map (· % n)).count j)
      ((List.range'_succ (s := s) (n := n) (step := 1)).symm.trans List.range'_concat)
    simp only [List.map_cons, List.map_append, List.count_cons, List.count_append, List.count_nil,
      List.map_nil, Nat.one_mul, Nat.add_mod_right, ih] at this
    omega

theorem count_windows (n j : Nat) (hj : j < n) (k s : Nat) :
    ((List.range' s (k * n)).map (· % n)).count j = k := by
  induction k with
  | zero => simp
  | succ k ih =>
    rw [Nat.succ_mul, ← List.range'_append, List.map_append, List.count_append, ih, Nat.one_mul,
      count_window n j hj]

theorem rr_count (lb : LB) (hn : 0 < lb.size) (k : Nat) (hw : lb.nextIndex.toNat + k * lb.size ≤ 2 ^ 64)
    (j : Nat) (hj : j < lb.size) : (rrRun lb (k * lb.size)).count j = k := by
  rw [rr_cyclic lb hn]
  refine Eq.trans (congrArg _ ?_) (count_windows lb.size j hj k lb.nextIndex.toNat)
  rw [List.range'_eq_map_range, List.map_map]
  apply List.map_congr_left
  intro i hi
  have := List.mem_range.1 hi
  exact congrArg (· % lb.size) (Nat.mod_eq_of_lt (by omega))

theorem rr_fair (counts : List Int) (hn : 0 < counts.length) (k : Nat) (hk : k * counts.length < 2 ^ 64)
    (j : Nat) (hj : j < counts.length) :
    (rrRun ⟨counts, 0⟩ (k * counts.length)).count j = k :=
  rr_count ⟨counts, 0⟩ hn k (by show 0 + k * counts.length ≤ _; omega) j hj

theorem rr_window (lb : LB) (hn : 0 < lb.size) (hw : lb.nextIndex.toNat + lb.size ≤ 2 ^ 64)
    (j : Nat) (hj : j < lb.size) : (rrRun lb lb.size).count j = 1 := by
  have := rr_count lb hn 1 (by omega) j hj
  rwa [Nat.one_mul] at this

theorem hashNext_eq (lb : LB) (hn : 0 < lb.size) (addr : List UInt8) :
    lb.hashNext addr = some ((Crc32.checksum addr).toNat % lb.size) := by
  rw [LB.hashNext, if_neg (Nat.ne_of_gt hn), LB.hash, if_pos (Int.natCast_nonneg _), Int.toNat_natCast]

theorem hash_in_range (lb : LB) (hn : 0 < lb.size) (addr : List UInt8) :
    ∃ i, lb.hashNext addr = some i ∧ i < lb.size ∧ i = (Crc32.checksum addr).toNat % lb.size :=
  ⟨_, hashNext_eq lb hn addr, Nat.mod_lt _ hn, rfl⟩

theorem hash_pure (lb lb' : LB) (h : lb.size = lb'.size) (addr : List UInt8) :
    lb.hashNext addr = lb'.hashNext addr := by
  unfold LB.hashNext
  rw [h]

def FirstMin (l : List Int) (i best : Nat) : Prop :=
  best < i ∧ (∀ j, j < i → l.getD best 0 ≤ l.getD j 0) ∧
    ∀ j, j < best → l.getD best 0 < l.getD j 0

theorem lcScan_spec (l : List Int) {d : Nat} (i best : Nat) (hi : i + d = l.length) (h : FirstMin l i best) :
    FirstMin l l.length (LB.lcScan (l.drop i) i best (l.getD best 0)) := by
  induction d generalizing i best with
  | zero =>
    cases hi
    rw [List.drop_length, LB.lcScan]
    exact h
  | succ d ih =>
    obtain ⟨hb, hmin, hfirst⟩ := h
    have hl : i < l.length := by omega
    rw [List.drop_eq_getElem_cons hl, LB.lcScan, List.getElem_eq_getD 0]
    split
    · next hc =>
      refine ih (i + 1) i (by omega)
        ⟨Nat.lt_succ_self i, fun j hj => ?_, fun j hj => Int.lt_of_lt_of_le hc (hmin j hj)⟩
      rcases Nat.lt_succ_iff_lt_or_eq.1 hj with h | rfl
      · exact Int.le_of_lt (Int.lt_of_lt_of_le hc (hmin j h))
      · exact Int.le_refl _
    · next hc =>
      refine ih (i + 1) best (by omega) ⟨Nat.lt_succ_of_lt hb, fun j hj => ?_, hfirst⟩
      rcases Nat.lt_succ_iff_lt_or_eq.1 hj with h | rfl
      · exact hmin j h
      · exact Int.not_lt.1 hc

theorem lc_minimal (lb : LB) (hn : 0 < lb.size) :
    ∃ i, lb.lcNext = some i ∧ i < lb.size ∧
      (∀ j, j < lb.size → lb.counts.getD i 0 ≤ lb.counts.getD j 0) ∧
      (∀ j, j < i → lb.counts.getD i 0 < lb.counts.getD j 0) := by
  obtain ⟨_ | ⟨c0, rest⟩, idx⟩ := lb
  · cases hn
  · refine ⟨_, rfl, lcScan_spec (c0 :: rest) 1 0 (Nat.add_comm ..)
      ⟨Nat.one_pos, fun j hj => ?_, fun j hj => (Nat.not_lt_zero j hj).elim⟩⟩
    cases Nat.lt_one_iff.1 hj
    exact Int.le_refl _

/-- `eventloop.register`: `addConn(1)` -/
def opened (lb : LB) (i : Nat) : LB := { lb with counts := lb.counts.set i (lb.counts.getD i 0 + 1) }

def Balanced (lb : LB) : Prop :=
  ∀ j k, j < lb.size → k < lb.size → lb.counts.getD j 0 ≤ lb.counts.getD k 0 + 1

def lcRun (lb : LB) : Nat → LB
  | 0 => lb
  | k + 1 => match lb.lcNext with
    | none => lb
    | some i => lcRun (opened lb i) k

theorem opened_size (lb : LB) (i : Nat) : (opened lb i).size = lb.size := by
  simp [opened, LB.size]

theorem balanced_opened (lb : LB) (hb : Balanced lb) (i : Nat) (hi : i < lb.size)
    (hmin : ∀ j, j < lb.size → lb.counts.getD i 0 ≤ lb.counts.getD j 0) : Balanced (opened lb i) := by
  intro j k hj hk
  rw [opened_size] at hj hk
  simp only [opened, getD_set hi]
  -- with `c` the old count of `i`: no new count is above `c + 1`, none is below `c`
  refine Int.le_trans (b := lb.counts.getD i 0 + 1) ?_ (Int.add_le_add_right ?_ 1)
  · split
    · exact Int.le_refl _
    · exact hb j i hj hi
  · split
    · exact Int.le_add_of_nonneg_right (by decide)
    · exact hmin k hk

theorem lc_keeps_balanced (lb : LB) (hn : 0 < lb.size) (hb : Balanced lb) :
    ∃ i, lb.lcNext = some i ∧ Balanced (opened lb i) :=
  let ⟨i, hi, hlt, hmin, _⟩ := lc_minimal lb hn
  ⟨i, hi, balanced_opened lb hb i hlt hmin⟩

theorem lcRun_balanced (lb : LB) (hb : Balanced lb) (k : Nat) : Balanced (lcRun lb k) := by
  induction k generalizing lb with
  | zero => exact hb
  | succ k ih =>
    by_cases hn : 0 < lb.size
    · obtain ⟨i, hi, hbi⟩ := lc_keeps_balanced lb hn hb
      simp only [lcRun, hi]
      exact ih _ hbi
    · have : lb.counts = [] := List.eq_nil_of_length_eq_zero (by simpa [LB.size] using hn)
      simp only [lcRun, LB.lcNext, this]
      exact hb

theorem fresh_balanced (n : Nat) : Balanced ⟨List.replicate n 0, 0⟩ := by
  intro j k hj hk
  simp only [LB.size, List.length_replicate] at hj hk
  simp [List.getD_eq_getElem?_getD, hj, hk]
end Gnet.Proofs.LB
