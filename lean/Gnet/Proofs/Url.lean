/-
  C16, parsing half, on strings: `parseProtoAddr` is exact on well-formed addresses and classifies
  everything else.  A string literal is `String.ofList` of its characters to the kernel and to the
  unifier alike, so `String.toList_ofList` reads them off without running `String.toList` (which
  decodes UTF-8).
-/
import Gnet.Proofs.UrlIp
import Gnet.Proofs.UrlUnix
import Gnet.Proofs.Options
namespace Gnet.Proofs.Url
open Gnet Gnet.Url Gnet.Options

theorem sep_toList : "://".toList = [':', '/', '/'] := String.toList_ofList
theorem colon_toList : ":".toList = [':'] := String.toList_ofList

/-- For a literal address: `l` is read off the literal by unification. -/
theorem eval_addr {l : Bytes} {r : ParseResult} (h : parseProtoAddrL l = r := by decide +kernel) :
    parseProtoAddr (String.ofList l) = r := by
  rw [parseProtoAddr, String.toList_ofList, h]

/-- The same for any function `p` of the characters of a literal. -/
theorem of_chars {β} {p : Bytes → β} {l : Bytes} {b : β} (h : p l = b := by decide +kernel) :
    p (String.ofList l).toList = b := by
  rwa [String.toList_ofList]

theorem ipScheme_word {s : String} (h : s ∈ ipSchemes) : isSchemeWord s.toList = true := by
  simp only [ipSchemes, List.mem_cons, List.not_mem_nil, or_false] at h
  rcases h with rfl | rfl | rfl | rfl | rfl | rfl <;> exact of_chars

theorem port_digits {p : Bytes} (h : isPort p = true) : p.all isDigit = true := by
  simp only [isPort, Bool.and_eq_true] at h; exact h.2

theorem hostport_toList (host port : String) :
    (host ++ ":" ++ port).toList = host.toList ++ ':' :: port.toList := by
  simp only [String.toList_append, colon_toList, List.append_assoc, List.cons_append,
    List.nil_append]

theorem parse_ip_parts (scheme host port : String) (hs : isSchemeWord scheme.toList = true)
    (hh : isIpHost host.toList = true) (hp : port.toList.all isDigit = true) :
    ∃ j, parseProtoAddr (scheme ++ "://" ++ host ++ ":" ++ port) =
      dispatch ⟨false, scheme, host ++ ":" ++ port, "", j⟩ := by
  have e : (scheme ++ "://" ++ host ++ ":" ++ port).toList =
      scheme.toList ++ ':' :: '/' :: '/' :: (host.toList ++ ':' :: port.toList) := by
    simp only [String.toList_append, sep_toList, colon_toList, List.append_assoc, List.cons_append,
      List.nil_append]
  refine ⟨String.ofList (pathJoin2 (host.toList ++ ':' :: port.toList) []), ?_⟩
  rw [parseProtoAddr, parseProtoAddrL, e, urlParse_ip hs hh hp, toParts, ← hostport_toList,
    String.ofList_toList, String.ofList_toList]

theorem parse_ip_exact (scheme host port : String) (hs : scheme ∈ ipSchemes)
    (hh : isIpHost host.toList = true) (hp : isPort port.toList = true) :
    parseProtoAddr (scheme ++ "://" ++ host ++ ":" ++ port) = .ok scheme (host ++ ":" ++ port) := by
  obtain ⟨j, e⟩ := parse_ip_parts scheme host port (ipScheme_word hs) hh (port_digits hp)
  rw [e]
  refine Proofs.Options.dispatch_ip _ rfl hs (fun h => ?_) rfl
  simpa [hostport_toList] using congrArg String.toList h

theorem parse_unknown_scheme (scheme host port : String)
    (hw : isLowerWord scheme.toList = true) (hn : scheme ∉ ipSchemes) (hu : scheme ≠ "unix")
    (hh : isIpHost host.toList = true) (hp : isPort port.toList = true) :
    parseProtoAddr (scheme ++ "://" ++ host ++ ":" ++ port) = .unsupportedProtocol := by
  obtain ⟨j, e⟩ := parse_ip_parts scheme host port (lowerWord_schemeWord hw) hh (port_digits hp)
  rw [e]
  exact (Proofs.Options.dispatch_errors _ rfl).2.2.2 (by rintro rfl; cases hw) hn hu

theorem parse_total_ok (s : String) {sch ep : String} (h : parseProtoAddr s = .ok sch ep) :
    (sch ∈ ipSchemes ∨ sch = "unix") ∧ ep ≠ "" := by
  rw [parseProtoAddr, parseProtoAddrL] at h
  rcases Proofs.Options.dispatch_total (toParts (urlParse (escapePercent s.toList))) with
    e | e | e | ⟨_, _, e, h1, h2⟩
  · cases e.symm.trans h
  · cases e.symm.trans h
  · cases e.symm.trans h
  · cases e.symm.trans h; exact ⟨h1, h2⟩

-- Props/C16Url.parse_total repeats this proof instead of citing the theorem: the two statements
-- have each their own matcher, and unifying them unfolds `parseProtoAddr s`.
theorem parse_total (s : String) :
    match parseProtoAddr s with
    | .ok sch ep => (sch ∈ ipSchemes ∨ sch = "unix") ∧ ep ≠ ""
    | _ => True := by
  split
  · exact parse_total_ok s ‹_›
  · trivial

theorem parse_unix_clean (p : String) (hp : isPathText p.toList = true) :
    parseProtoAddr ("unix://" ++ p) = .ok "unix" (String.ofList (pathClean p.toList)) := by
  have hne : p.toList ≠ [] := by
    simp only [isPathText, Bool.and_eq_true, decide_eq_true_eq] at hp; exact hp.1
  have e : ("unix://" ++ p).toList = unixB ++ ':' :: '/' :: '/' :: p.toList := by
    rw [String.toList_append, String.toList_ofList]; rfl
  rw [parseProtoAddr, parseProtoAddrL, e, urlParse_unix hp]
  simp only [toParts, pathJoin2_split hne]
  exact Proofs.Options.dispatch_unix _ rfl rfl
    (by simpa [String.ofList_eq_empty_iff] using pathClean_ne_nil p.toList)

theorem parse_unix_exact (p : String) (hp : isCleanPath p.toList = true) :
    parseProtoAddr ("unix://" ++ p) = .ok "unix" p := by
  rw [parse_unix_clean p (cleanPath_text hp), pathClean_clean hp, String.ofList_toList]

theorem parse_no_scheme (host port : String)
    (hh : isV6Host host.toList = true ∨ isV6ZoneHost host.toList = true)
    (hp : isPort port.toList = true) :
    parseProtoAddr (host ++ ":" ++ port) = .urlError := by
  rw [parseProtoAddr, parseProtoAddrL, hostport_toList, urlParse_v6_noScheme hh (port_digits hp)]
  rfl

theorem parse_no_scheme_name (host port : String) (hh : isSchemeWord host.toList = true)
    (hp : isPort port.toList = true) :
    parseProtoAddr (host ++ ":" ++ port) =
      if host ∈ ipSchemes ∨ host = "unix" then .invalidAddress else .unsupportedProtocol := by
  rw [parseProtoAddr, parseProtoAddrL, hostport_toList, urlParse_name_noScheme hh (port_digits hp),
    toParts, String.ofList_toList]
  -- scheme `host`, and host, path and joined path all empty
  have hd := Proofs.Options.dispatch_errors ⟨false, host, "", "", ""⟩ rfl
  by_cases h1 : host ∈ ipSchemes
  · rw [if_pos (.inl h1)]; exact hd.2.1 h1 (.inl rfl)
  · by_cases h2 : host = "unix"
    · rw [if_pos (.inr h2)]; exact hd.2.2.1 h2 rfl
    · rw [if_neg (not_or.2 ⟨h1, h2⟩)]
      exact hd.2.2.2 (by rintro rfl; cases hh) h1 h2

theorem inner_bracket (b : Bytes) : inner ('[' :: b ++ [']']) = b := by
  simp [inner]

theorem isV6Host_intro {a : Bytes} (hne : a ≠ []) (ha : a.all hexColonChar = true) :
    isV6Host ('[' :: a ++ [']']) = true := by
  simp only [isV6Host, inner_bracket, Bool.and_eq_true, decide_eq_true_eq]
  exact ⟨⟨trivial, hne⟩, ha⟩

theorem isV6ZoneHost_intro {a z : Bytes} (hne : a ≠ []) (ha : a.all hexColonChar = true)
    (hzne : z ≠ []) (hz : z.all zoneChar = true) :
    isV6ZoneHost ('[' :: a ++ '%' :: z ++ [']']) = true := by
  have hcut := cut_append (c := '%') (b := '%' :: z)
    (not_mem_of_forall (Plain.of_all plain_of_hexColon ha) (by decide)) (by simp)
  have e : '[' :: a ++ '%' :: z ++ [']'] = '[' :: (a ++ '%' :: z) ++ [']'] := by simp
  have h1 : v6Addr ('[' :: a ++ '%' :: z ++ [']']) = a := by
    rw [e, v6Addr, inner_bracket, hcut.1]
  have h2 : v6Zone ('[' :: a ++ '%' :: z ++ [']']) = z := by
    rw [e, v6Zone, inner_bracket, hcut.2]; rfl
  simp only [isV6ZoneHost, h1, h2, Bool.and_eq_true, decide_eq_true_eq]
  exact ⟨⟨⟨⟨trivial, hne⟩, ha⟩, hzne⟩, hz⟩

theorem v6_text (a : String) : ("[" ++ a ++ "]").toList = '[' :: a.toList ++ [']'] := by
  simp only [String.toList_append]
  rw [String.toList_ofList, String.toList_ofList]; rfl

theorem v6zone_text (a z : String) :
    ("[" ++ a ++ "%" ++ z ++ "]").toList = '[' :: a.toList ++ '%' :: z.toList ++ [']'] := by
  simp only [String.toList_append]
  rw [String.toList_ofList, String.toList_ofList, String.toList_ofList]
  simp

end Gnet.Proofs.Url
