/-
  The one-round invariants lifted to whole histories: any number of accepted rounds from the initial state.
-/
import Gnet.Proofs.ReactorBytes
import Gnet.Proofs.ReactorLife
namespace Gnet.Proofs.ReactorRuns
open Gnet.Reactor

def acceptRounds (s : RState) : List (List Tok) → Except String RState
  | [] => .ok s
  | r :: rest => match acceptRound s r with
    | .ok s' => acceptRounds s' rest
    | .error e => .error e

theorem acceptRounds_inv {P : RState → Prop} (hstep : ∀ s toks s', acceptRound s toks = .ok s' → P s → P s') :
    ∀ (rounds : List (List Tok)) (s s' : RState), acceptRounds s rounds = .ok s' → P s → P s'
  | [], s, s', h, hP => by cases h; exact hP
  | r :: rest, s, s', h, hP => by
    unfold acceptRounds at h
    split at h
    · exact acceptRounds_inv hstep rest _ s' h (hstep _ _ _ ‹_› hP)
    · cases h

theorem runs_inbound (rounds : List (List Tok)) (s s' : RState) (hn : NamesNodup s) (hi : InvIn s)
    (hq : Quiet s) (h : acceptRounds s rounds = .ok s') : InvIn s' ∧ Quiet s' ∧ NamesNodup s' :=
  acceptRounds_inv (P := fun s => InvIn s ∧ Quiet s ∧ NamesNodup s)
    (fun s toks s' h hP => ReactorBytes.inbound_integrity s s' toks hP.2.2 h hP.1 hP.2.1)
    rounds s s' h ⟨hi, hq, hn⟩

theorem runs_outbound (rounds : List (List Tok)) (s s' : RState) (hn : NamesNodup s) (ho : InvOut s)
    (hq : Quiet s) (h : acceptRounds s rounds = .ok s') : InvOut s' ∧ Quiet s' ∧ NamesNodup s' :=
  acceptRounds_inv (P := fun s => InvOut s ∧ Quiet s ∧ NamesNodup s)
    (fun s toks s' h hP => ReactorBytes.outbound_integrity s s' toks hP.2.2 h hP.1 hP.2.1)
    rounds s s' h ⟨ho, hq, hn⟩

theorem runs_all (rounds : List (List Tok)) (s s' : RState) (hn : NamesNodup s) (hi : InvIn s) (ho : InvOut s)
    (hq : Quiet s) (hl : InvLife s) (hf : InvFd s) (h : acceptRounds s rounds = .ok s') :
    InvIn s' ∧ InvOut s' ∧ InvLife s' ∧ InvFd s' ∧ Quiet s' ∧ NamesNodup s' :=
  acceptRounds_inv (P := fun s => InvIn s ∧ InvOut s ∧ InvLife s ∧ InvFd s ∧ Quiet s ∧ NamesNodup s)
    (fun s toks s' h ⟨hi, ho, hl, hf, hq, hn⟩ =>
      have ⟨hn', hq', hi', ho'⟩ := ReactorBytes.accounting True True h ⟨hn, hq, fun _ => hi, fun _ => ho⟩
      ⟨hi' trivial, ho' trivial, ReactorLife.lifecycle s s' toks hn h hl,
        ReactorLife.fd_discipline s s' toks hn h hl hf, hq', hn'⟩)
    rounds s s' h ⟨hi, ho, hl, hf, hq, hn⟩

theorem runs_from_init (cfg : Cfg) (rounds : List (List Tok)) (s' : RState)
    (h : acceptRounds { cfg := cfg } rounds = .ok s') :
    InvIn s' ∧ InvOut s' ∧ InvLife s' ∧ InvFd s' ∧ Quiet s' ∧ NamesNodup s' :=
  runs_all rounds _ s' (ReactorBytes.inbound_init cfg).2.2 (ReactorBytes.inbound_init cfg).1
    (ReactorBytes.outbound_init cfg) (ReactorBytes.inbound_init cfg).2.1 (ReactorLife.lifecycle_init cfg)
    (fun _ he => by cases he) h

end Gnet.Proofs.ReactorRuns
