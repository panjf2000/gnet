/-
  Work about one connection `c` other than `close` rewrites the entry of `c`, keeping its lifecycle fields
  (`core`) or appending one "traffic" to its word, and logs system calls on `c` only while `c` is opened (for
  `Conn.Dup`, while its descriptor is open). Whatever is stable under these steps (`Foot`) is preserved
  (`foot`), once it is by `close`.
-/
import Gnet.Proofs.ReactorWp
namespace Gnet.Proofs.ReactorL
open Gnet.Reactor

abbrev Conns := List (String × Conn)
abbrev SysLog := List (String × Bool)

structure Core where
  opened : Bool
  registered : Bool
  fdOpen : Bool
  word : List String
  closeErrNil : Bool

def core (x : Conn) : Core := ⟨x.opened, x.registered, x.fdOpen, x.word, x.closeErrNil⟩

def Core.traffic (k : Core) : Core := { k with word := k.word ++ ["traffic"] }

def target : Work → Option String
  | .register0 c | .open c | .connOpen c _ | .processIO c _ | .elRead c | .elReadLoop c _ | .elWrite c
  | .elWriteLoop c _ | .close c _ | .closeFlush c | .handleAction c _ | .callback _ c | .connWrite c _
  | .connWriteLoop c _ _ | .connWritev c _ | .connWritevLoop c _ _ | .flush c | .wake c => some c
  | .accept _ | .readUDP _ | .udpCallback .. | .closeConns => none

/-- what can run while `c` is being closed: no OnTraffic, no OnOpen -/
def noTraffic : Work → Bool
  | .connOpen .. | .elWrite .. | .elWriteLoop .. | .close .. | .closeFlush .. | .handleAction ..
  | .callback .. | .connWrite .. | .connWriteLoop .. | .connWritev .. | .connWritevLoop .. | .flush .. => true
  | _ => false

/-- `O` is the form of `I` on entry to a loop: `I` and "`c` is opened". `top = false` restricts the claim to
    the works of `noTraffic`. -/
structure Foot (c : String) (top : Bool) (I O : Conns → SysLog → Prop) : Prop where
  upd : ∀ {cs sl x y}, lookupL cs c = some x → core y = core x → I cs sl → I (updL cs c y) sl
  updO : ∀ {cs sl x y}, lookupL cs c = some x → core y = core x → O cs sl → O (updL cs c y) sl
  logO : ∀ {cs sl x}, lookupL cs c = some x → O cs sl → O cs (sl ++ [(c, x.fdOpen)])
  weaken : ∀ {cs sl}, O cs sl → I cs sl
  guard : ∀ {cs sl x}, x.opened = true → lookupL cs c = some x → I cs sl → O cs sl
  logfd : ∀ {cs sl x}, x.fdOpen = true → lookupL cs c = some x → I cs sl →
    I cs (sl ++ [(c, x.fdOpen)])
  traffic : ∀ {cs sl x y}, top = true → lookupL cs c = some x → core y = (core x).traffic → O cs sl →
    I (updL cs c y) sl

/-- the callers of the loops have checked that `c` is opened; work about `c` never calls `register0`
    or `open` -/
@[reducible] def Pre (I O : Conns → SysLog → Prop) : Work → Conns → SysLog → Prop
  | .connOpen .. | .elReadLoop .. | .elWriteLoop .. | .closeFlush .. | .connWriteLoop ..
  | .connWritevLoop .. => O
  | .register0 .. | .open .. => fun _ _ => False
  | _ => I

variable {c : String} {top : Bool} {I O : Conns → SysLog → Prop}

section rules
variable {β : Type} {s : RState} {Q : β → RState → Prop}

theorem Foot.wp_log (hI : Foot c top I O) {f : PUnit → M β} (hs : O s.conns s.sysLog)
    (H : ∀ s1, O s1.conns s1.sysLog → wp (f ⟨⟩) Q s1) : wp (noteSys c >>= f) Q s :=
  wp_noteSys_bind fun _ hx => H _ (hI.logO hx hs)

theorem Foot.wp_updO (hI : Foot c top I O) {g : Conn → Conn} {f : PUnit → M β}
    (hg : ∀ x, core (g x) = core x) (hs : O s.conns s.sysLog)
    (H : ∀ s1, O s1.conns s1.sysLog → wp (f ⟨⟩) Q s1) : wp (modConn c g >>= f) Q s :=
  wp_modConn_bind fun x hx => H _ (hI.updO hx (hg x) hs)

theorem Foot.wp_upd (hI : Foot c top I O) {g : Conn → Conn} {f : PUnit → M β}
    (hg : ∀ x, core (g x) = core x) (hs : I s.conns s.sysLog)
    (H : ∀ s1, I s1.conns s1.sysLog → wp (f ⟨⟩) Q s1) : wp (modConn c g >>= f) Q s :=
  wp_modConn_bind fun x hx => H _ (hI.upd hx (hg x) hs)

theorem Foot.wp_traffic (hI : Foot c top I O) {g : Conn → Conn} {f : PUnit → M β} (ht : top = true)
    (hg : ∀ x, core (g x) = (core x).traffic) (hs : O s.conns s.sysLog)
    (H : ∀ s1, I s1.conns s1.sysLog → wp (f ⟨⟩) Q s1) : wp (modConn c g >>= f) Q s :=
  wp_modConn_bind fun x hx => H _ (hI.traffic ht hx (hg x) hs)

/-- a fragment the model repeats inline -/
theorem Foot.wp_armWrite (hI : Foot c top I O) {k : String → M β} {m w : String} (hs : O s.conns s.sysLog)
    (H : ∀ e s1, O s1.conns s1.sysLog → wp (k e) Q s1) :
    wp (do noteSys c
           match ← pop with
           | .sysCtl "ModReadWrite" c' e => do
             if c' != c then throw m
             k e
           | t => mismatch w t) Q s := by
  refine hI.wp_log hs fun s hs => wp_pop_bind fun t _ _ _ => ?_
  msplit
  exact wp_guard fun _ => H _ _ hs

end rules

theorem opened_of_guard {a b : Bool} (h : ¬(!a || b) = true) : a = true := by
  cases a
  · exact absurd rfl h
  · rfl

theorem connOpen_foot (hI : Foot c top I O) : ∀ fuel buf s, O s.conns s.sysLog →
    wp (exec fuel (.connOpen c buf)) (fun _ s' => O s'.conns s'.sysLog) s := by
  intro fuel
  induction fuel with
  | zero => intro _ s _; exact exec_zero _ _ _
  | succ fuel ih =>
    intro buf s hs
    refine wp_get_bind ?_
    refine wp_getConn_bind fun x hx => ?_
    refine wp_if (fun _ => hI.wp_updO (fun _ => rfl) hs fun _ hs => wp_ret hs) fun _ => ?_
    refine hI.wp_log hs fun s hs => ?_
    refine wp_pop_bind fun t _ _ _ => ?_
    msplit
    refine wp_guard fun _ => ?_
    refine wp_if (fun _ => wp_if (fun _ => ?_) fun _ => wp_ret hs) fun _ => ?_
    · exact hI.wp_updO (fun _ => rfl) hs fun _ hs => wp_ret hs
    refine hI.wp_updO (fun _ => rfl) hs fun s hs => ?_
    exact wp_if (fun _ => wp_ret hs) fun _ => ih _ _ hs

/-- `hs` is `I`, or `O` from the guard that found `c` opened (`hI.guard`) until the next call of `exec` gives
    back `I` -/
theorem foot (hI : Foot c top I O)
    (hclose : ∀ fuel en s, I s.conns s.sysLog →
      wp (exec fuel (.close c en)) (fun _ s' => I s'.conns s'.sysLog) s) :
    ∀ fuel {w}, target w = some c → (noTraffic w || top) = true →
      ∀ {s}, Pre I O w s.conns s.sysLog → wp (exec fuel w) (fun _ s' => I s'.conns s'.sysLog) s := by
  intro fuel
  induction fuel with
  | zero => intro w _ _ s _; exact exec_zero _ _ _
  | succ fuel ih =>
    intro w hw ht s hs
    have armed : ∀ {r1 r2 : Ret} (e : String) (s : RState), O s.conns s.sysLog →
        wp (if e != "nil" then exec fuel (.close c false) >>= fun _ => pure r1 else pure r2)
          (fun _ s' => I s'.conns s'.sysLog) s := fun _ _ hs =>
      wp_if (fun _ => wp_seq (ih rfl rfl (hI.weaken hs)) fun _ _ hs => wp_ret hs)
        fun _ => wp_ret (hI.weaken hs)
    cases w with
    | register0 => cases hw; exact hs.elim
    | «open» => cases hw; exact hs.elim
    | close => cases hw; exact hclose _ _ s hs
    | connOpen => cases hw; exact wp_mono (connOpen_foot hI _ _ _ hs) (fun _ _ h => hI.weaken h)
    | accept | readUDP | udpCallback | closeConns => cases hw
    | handleAction =>
      cases hw
      refine wp_get_bind ?_
      exact wp_if (fun _ => ih rfl rfl hs) fun _ => wp_if (fun _ => wp_ret hs) fun _ => wp_ret hs
    | elWrite =>
      cases hw
      refine wp_get_bind ?_
      refine wp_enter_bind fun _ _ _ => ?_
      refine wp_getConn_bind fun x hx => wp_if (fun _ => wp_ret hs) fun hb => ?_
      exact ih rfl rfl (hI.guard (opened_of_guard hb) hx hs)
    | elWriteLoop =>
      cases hw
      refine wp_get_bind ?_
      refine wp_getConn_bind fun x _ => ?_
      refine hI.wp_log hs fun s hs => ?_
      refine wp_seq (R := fun _ s => O s.conns s.sysLog) ?_ fun ⟨d, n, err⟩ s hs => ?_
      · refine wp_pop_bind fun t _ _ _ => ?_
        split
        · exact wp_guard fun _ => wp_guard fun _ => wp_ret hs
        · exact wp_guard fun _ => wp_guard fun _ => wp_ret hs
        · exact wp_dead
      refine hI.wp_updO (fun _ => rfl) hs fun s hs => ?_
      refine wp_if (fun _ => wp_ret (hI.weaken hs)) fun _ => ?_
      refine wp_if (fun _ => ih rfl rfl (hI.weaken hs)) fun _ => ?_
      refine wp_getConn_bind fun _ _ => ?_
      refine wp_if (fun _ => ih rfl rfl hs) fun _ => ?_
      refine wp_if (fun _ => ?_) fun _ =>
        wp_if (fun _ => wp_modify_bind (wp_ret (hI.weaken hs))) fun _ => wp_ret (hI.weaken hs)
      refine hI.wp_log hs fun s hs => ?_
      refine wp_pop_bind fun t _ _ _ => ?_
      msplit
      refine wp_guard fun _ => ?_
      exact wp_if (fun _ => ih rfl rfl (hI.weaken hs)) fun _ => wp_ret (hI.weaken hs)
    | closeFlush =>
      cases hw
      refine wp_get_bind ?_
      refine wp_getConn_bind fun x hx => wp_if (fun _ => wp_ret (hI.weaken hs)) fun _ => ?_
      refine hI.wp_log hs fun s hs => ?_
      refine wp_pop_bind fun t _ _ _ => ?_
      msplit
      refine wp_guard fun _ => wp_guard fun _ => ?_
      refine wp_if (fun _ => wp_ret (hI.weaken hs)) fun _ => ?_
      refine hI.wp_updO (fun _ => rfl) hs fun s hs => ?_
      exact ih rfl rfl hs
    | flush =>
      cases hw
      refine wp_get_bind ?_
      refine wp_seq (ih rfl rfl hs) fun r s hs => ?_
      refine wp_if (fun _ => wp_ret hs) fun _ => ?_
      refine wp_getConn_bind fun x hx => wp_if (fun hb => ?_) fun _ => wp_ret hs
      simp only [Bool.and_eq_true] at hb
      exact hI.wp_armWrite (hI.guard hb.1.1 hx hs) armed
    | connWrite | connWritev =>
      cases hw
      refine wp_get_bind ?_
      refine wp_getConn_bind fun x hx => wp_if (fun _ => wp_ret hs) fun ho => ?_
      refine wp_if (fun _ => hI.wp_upd (fun _ => rfl) hs fun s hs => wp_ret hs) fun _ => ?_
      refine hI.wp_updO (fun _ => rfl) (hI.guard (by simpa using ho) hx hs) fun s hs => ?_
      exact ih rfl rfl hs
    | connWriteLoop | connWritevLoop =>
      cases hw
      refine wp_get_bind ?_
      refine hI.wp_log hs fun s hs => ?_
      refine wp_pop_bind fun t _ _ _ => ?_
      msplit
      refine wp_guard fun _ => ?_
      refine wp_if (fun _ => wp_if (fun _ => ?_) fun _ => ?_) fun _ => ?_
      · -- EAGAIN: everything is buffered
        refine hI.wp_updO (fun _ => rfl) hs fun s hs => ?_
        exact wp_if (fun _ => hI.wp_armWrite hs armed) fun _ => wp_ret (hI.weaken hs)
      · refine hI.wp_updO (fun _ => rfl) hs fun s hs => ?_
        exact wp_seq (ih rfl rfl (hI.weaken hs)) fun _ _ hs => wp_ret hs
      · refine hI.wp_updO (fun _ => rfl) hs fun s hs => ?_
        refine wp_if (fun _ => ih rfl rfl hs) fun _ => ?_
        refine wp_if (fun _ => ?_) fun _ => wp_ret (hI.weaken hs)
        refine hI.wp_updO (fun _ => rfl) hs fun s hs => ?_
        exact hI.wp_armWrite hs armed
    | wake =>
      cases hw
      refine wp_get_bind ?_
      refine wp_enter_bind fun _ _ _ => ?_
      refine wp_getConn_bind fun x hx => wp_if (fun _ => wp_ret hs) fun hb => ?_
      replace hs := hI.guard (opened_of_guard hb) hx hs
      refine wp_pop_bind fun t _ _ _ => ?_
      msplit
      refine wp_guard fun _ => wp_guard fun _ => ?_
      refine hI.wp_traffic ht (fun _ => rfl) hs fun s hs => ?_
      refine wp_seq (ih rfl rfl hs) fun r s hs => ?_
      exact ih rfl rfl hs
    | elRead =>
      cases hw
      refine wp_get_bind ?_
      refine wp_enter_bind fun _ _ _ => ?_
      refine wp_getConn_bind fun x hx => wp_if (fun _ => wp_ret hs) fun hb => ?_
      exact ih (w := .elReadLoop c 0) rfl ht (hI.guard (by simpa using hb) hx hs)
    | elReadLoop =>
      cases hw
      refine wp_get_bind ?_
      refine hI.wp_log hs fun s hs => ?_
      refine wp_pop_bind fun t _ _ _ => ?_
      msplit
      refine wp_guard fun _ => ?_
      refine wp_if (fun _ => ?_) fun _ => ?_
      · exact wp_if (fun _ => wp_ret (hI.weaken hs)) fun _ => ih rfl rfl (hI.weaken hs)
      refine hI.wp_updO (fun _ => rfl) hs fun s hs => ?_
      refine wp_getConn_bind fun _ _ => ?_
      refine wp_pop_bind fun t _ _ _ => ?_
      -- what follows the `match` on the OnTraffic token is a join point; taken out, `msplit` sees the match
      extract_lets jp
      msplit
      refine wp_guard fun _ => wp_guard fun _ => ?_
      refine hI.wp_traffic ht (fun _ => rfl) hs fun s hs => ?_
      refine wp_seq (ih rfl rfl hs) fun r s hs => ?_
      refine wp_if (fun _ => ih rfl rfl hs) fun _ => wp_if (fun _ => wp_ret hs) fun _ => ?_
      refine wp_getConn_bind fun x hx => wp_if (fun _ => wp_ret hs) fun hb => ?_
      refine hI.wp_updO (fun _ => rfl) (hI.guard (by simpa using hb) hx hs) fun s hs => ?_
      refine wp_getConn_bind fun _ _ => ?_
      refine wp_if (fun _ => ih (w := .elReadLoop ..) rfl (show top = true from ht) hs) fun _ => ?_
      exact wp_if (fun _ => wp_modify_bind (wp_ret (hI.weaken hs))) fun _ => wp_ret (hI.weaken hs)
    | processIO =>
      cases hw
      refine wp_get_bind ?_
      refine wp_if (fun _ => hI.wp_upd (fun _ => rfl) hs fun s hs => ih rfl rfl hs) fun _ => ?_
      -- `jp1` follows the write event, `jp2` the read event
      extract_lets jp2 jp1
      have cont2 : ∀ r2 s, I s.conns s.sysLog → wp (jp2 r2) (fun _ s' => I s'.conns s'.sysLog) s := by
        intro r2 s hs
        refine wp_if (fun _ => wp_ret hs) fun _ => ?_
        -- the peer has closed its end
        refine wp_getConn_bind fun _ _ => ?_
        refine wp_if (fun _ => wp_if (fun _ => ih rfl rfl hs) fun _ => ?_) fun _ => wp_ret hs
        refine hI.wp_upd (fun _ => rfl) hs fun s hs => ?_
        exact ih (w := .elRead c) rfl ht hs
      have cont1 : ∀ r1 s, I s.conns s.sysLog → wp (jp1 r1) (fun _ s' => I s'.conns s'.sysLog) s :=
        fun r1 s hs =>
          wp_if (fun _ => wp_ret hs) fun _ =>
            wp_if (fun _ => wp_seq (ih (w := .elRead c) rfl ht hs) cont2) fun _ => wp_pure_bind (cont2 _ _ hs)
      exact wp_if (fun _ => wp_seq (ih rfl rfl hs) cont1) fun _ => wp_pure_bind (cont1 _ _ hs)
    | callback kind =>
      cases hw
      refine wp_get_bind ?_
      refine wp_pop_bind fun t _ _ _ => ?_
      split
      · -- ret
        refine wp_if (fun _ => ?_) fun _ => wp_ret hs
        refine wp_getConn_bind fun x hx => wp_if (fun _ => wp_ret hs) fun hb => ?_
        replace hs := hI.guard (by simpa using hb) hx hs
        split
        · -- `some buf`: OnOpen returned bytes, conn.open writes them
          refine hI.wp_updO (fun _ => rfl) hs fun s hs => ?_
          refine wp_seq (connOpen_foot hI _ _ _ hs) fun r s hs => ?_
          refine wp_if (fun _ => ih rfl rfl (hI.weaken hs)) fun _ => ?_
          refine wp_getConn_bind fun _ _ => wp_if (fun _ => ?_) fun _ => ih rfl rfl (hI.weaken hs)
          refine hI.wp_armWrite hs fun _ _ hs => ?_
          exact wp_if (fun _ => ih rfl rfl (hI.weaken hs)) fun _ => ih rfl rfl (hI.weaken hs)
        · -- `none`: the model repeats the rest inline
          refine wp_getConn_bind fun _ _ => wp_if (fun _ => ?_) fun _ => ih rfl rfl (hI.weaken hs)
          refine hI.wp_armWrite hs fun _ _ hs => ?_
          exact wp_if (fun _ => ih rfl rfl (hI.weaken hs)) fun _ => ih rfl rfl (hI.weaken hs)
      · -- hop
        rename_i op arg _ _
        refine wp_getConn_bind fun x hx => ?_
        extract_lets all consume argN jp
        have fin : ∀ s, I s.conns s.sysLog → wp (jp ()) (fun _ s' => I s'.conns s'.sysLog) s :=
          fun _ hs => ih rfl rfl hs
        have eat : ∀ j s, I s.conns s.sysLog →
            wp (consume j >>= jp) (fun _ s' => I s'.conns s'.sysLog) s :=
          fun j _ hs => hI.wp_upd (fun _ => rfl) hs fin
        have hop : ∀ {s : RState} {n : Int} {e : String} {d : List Nat}, I s.conns s.sysLog →
            wp (checkHop op n e d >>= jp) (fun _ s' => I s'.conns s'.sysLog) s :=
          fun hs => wp_checkHop_bind fun _ _ => fin _ hs
        split
        · exact wp_checkHop_bind fun _ _ => eat _ _ hs                                   -- read
        · exact wp_if (fun _ => hop hs) fun _ => wp_checkHop_bind fun _ _ => eat _ _ hs  -- next
        · exact wp_if (fun _ => hop hs) fun _ => hop hs                                  -- peek
        · exact wp_checkHop_bind fun _ _ => eat _ _ hs                                   -- discard
        · exact hop hs                                                                   -- inbuf
        · exact hop hs                                                                   -- outbuf
        · exact wp_popRes_bind fun _ _ _ _ _ => wp_guard fun _ => eat _ _ hs             -- writeto
        · -- readfrom
          refine wp_popRes_bind fun _ _ _ _ _ => wp_get_bind (wp_modify_bind ?_)
          exact hI.wp_upd (fun _ => rfl) hs fin
        · -- readbulk
          refine wp_popRes_bind fun _ _ _ _ _ => wp_get_bind (wp_modify_bind ?_)
          exact hI.wp_upd (fun _ => rfl) hs fin
        · exact wp_seq (ih rfl rfl hs) fun _ _ hs => hop hs                          -- write
        · exact wp_seq (ih rfl rfl hs) fun _ _ hs => hop hs                          -- writev
        · exact wp_seq (ih rfl rfl hs) fun _ _ hs => hop hs                          -- flush
        · exact wp_modify_bind (hop hs)                                                  -- asyncwrite
        · exact wp_modify_bind (hop hs)                                                  -- asyncwritev
        · exact wp_modify_bind (hop hs)                                                  -- wake
        · exact wp_modify_bind (hop hs)                                                  -- close
        · exact wp_seq (ih rfl rfl hs) fun _ _ hs => hop hs                          -- elclose
        · exact wp_popRes_bind fun _ _ _ _ _ => fin _ hs                                 -- addr
        · -- dup: a system call on the descriptor of `c`, just found open
          refine wp_guard fun hb => ?_
          refine wp_noteSys_bind fun x1 hx1 => ?_
          obtain rfl := Option.some.inj (hx.symm.trans hx1)
          refine wp_pop_bind fun t _ _ _ => ?_
          msplit
          refine wp_guard fun _ => ?_
          exact hop (hI.logfd (by simpa using hb) hx hs)
        · exact wp_dead
      · exact wp_dead

end Gnet.Proofs.ReactorL
