import Gnet.Basic
import Gnet.Gen.Arith
import Gnet.Proofs.Bits
/-
  C20: each function of `Gnet.Gen.Arith` gets one closed form in a `Nat` function; the rest is `Nat`
  arithmetic from `Bits.lean`.
-/
namespace Gnet.Proofs.Arith
open Gnet Gnet.Proofs.Bits

def IsPow2 (x : Int) : Prop := ∃ k : Nat, x = 2 ^ k

/-- for `omega`: `↑(2 ^ k)` is the `Nat` atom `2 ^ k`, `(2 : Int) ^ k` is another atom -/
theorem isPow2_iff {x : Int} : IsPow2 x ↔ ∃ k : Nat, x = ((2 ^ k : Nat) : Int) := by
  simp [IsPow2]

theorem isPow2_natCast {m : Nat} : IsPow2 (m : Int) ↔ ∃ k, m = 2 ^ k := by
  simp only [isPow2_iff, Int.natCast_inj]

theorem not_isPow2_of_nonpos {x : Int} (h : x ≤ 0) : ¬ IsPow2 x := by
  rintro ⟨k, hk⟩
  have : (0 : Int) < 2 ^ k := Int.pow_pos (by decide)
  omega

theorem toInt_eq_toNat_and_lt (n : BitVec 64) (h : 0 ≤ n.toInt) :
    n.toInt = n.toNat ∧ n.toNat < 2 ^ 63 := by
  have := BitVec.toInt_eq_toNat_cond n; omega

theorem toInt_ofNat_of_lt {m : Nat} (h : m < 2 ^ 63) : (BitVec.ofNat 64 m).toInt = m := by
  have e : (BitVec.ofNat 64 m).toNat = m := Nat.mod_eq_of_lt (by omega)
  rw [BitVec.toInt_eq_toNat_of_lt (by omega), e]

theorem toNat_sub_one {w : Nat} {n : BitVec w} (h : 0 < n.toNat) : (n - 1#w).toNat = n.toNat - 1 := by
  have h1 : (1#w).toNat = 1 := Nat.mod_eq_of_lt (Nat.lt_of_le_of_lt h n.isLt)
  rw [BitVec.toNat_sub_of_le (by rw [BitVec.le_def, h1]; exact h), h1]

theorem sle_two {n : BitVec 64} : n.sle 2#64 = true ↔ n.toInt ≤ 2 := BitVec.sle_iff_toInt_le

theorem toNat_ofNat_bitLen {w : Nat} (x : BitVec w) (hw : w ≤ 64) :
    (BitVec.ofNat 64 (bitLen x.toNat)).toNat = bitLen x.toNat := by
  have : bitLen x.toNat ≤ w := bitLen_le_iff.2 x.isLt
  rw [BitVec.toNat_ofNat, Nat.mod_eq_of_lt (by omega)]

theorem toNat_bitsLen64 (x : BitVec 64) : (bitsLen64 x).toNat = bitLen x.toNat :=
  toNat_ofNat_bitLen x (Nat.le_refl _)

theorem toNat_bitsLen32 (x : BitVec 32) : (bitsLen32 x).toNat = bitLen x.toNat :=
  toNat_ofNat_bitLen x (by decide)

theorem one_shiftLeft (k : Nat) : 1#64 <<< k = BitVec.ofNat 64 (2 ^ k) :=
  BitVec.eq_of_toNat_eq (by simp [Nat.one_shiftLeft])

theorem ispow2_spec (n : BitVec 64) :
    ∃ b, Gen.IsPowerOfTwo n = some b ∧ (b = true ↔ IsPow2 n.toInt) := by
  refine ⟨_, rfl, ?_⟩
  rw [Bool.and_eq_true, beq_iff_eq, BitVec.slt_iff_toInt_lt, BitVec.toInt_zero]
  by_cases h : 0 < n.toInt
  · obtain ⟨hn, -⟩ := toInt_eq_toNat_and_lt n (by omega)
    rw [hn, isPow2_natCast, ← Nat.isPowerOfTwo, ← Nat.and_sub_one_eq_zero_iff_isPowerOfTwo (by omega),
      ← BitVec.toNat_inj, BitVec.toNat_and, toNat_sub_one (by omega)]
    exact and_iff_right (by omega)
  · exact iff_of_false (fun h' => h h'.1) (not_isPow2_of_nonpos (by omega))

theorem ceil_guard (n : BitVec 64) :
    (((n &&& 4611686018427387904#64) != 0#64) && (BitVec.slt 4611686018427387904#64 n)) = true ↔
      2 ^ 62 < n.toInt := by
  rw [Bool.and_eq_true, BitVec.slt_iff_toInt_lt]
  refine ⟨And.right, fun h => ⟨?_, h⟩⟩
  -- the first conjunct is redundant: an `int` above `2^62` has bit 62 set
  obtain ⟨hn, h63⟩ := toInt_eq_toNat_and_lt n (by omega)
  have : n.getLsbD 62 = true :=
    Nat.testBit_of_two_pow_le_and_two_pow_add_one_gt (by omega) (by omega)
  rw [show 4611686018427387904#64 = BitVec.twoPow 64 62 from rfl, BitVec.and_twoPow, if_pos this]
  decide

theorem ceil_eq (n : BitVec 64) (h : n.toInt ≤ 2 ^ 62) :
    Gen.CeilToPowerOfTwo n = some (BitVec.ofNat 64 (ceilPow2 n.toInt.toNat)) := by
  rw [Gen.CeilToPowerOfTwo, if_neg (by rw [ceil_guard]; omega)]
  by_cases hs : n.toInt ≤ 2
  · rw [if_pos (sle_two.2 hs), ceilPow2, if_pos (by omega)]
  · obtain ⟨hn, -⟩ := toInt_eq_toNat_and_lt n (by omega)
    rw [if_neg (mt sle_two.1 hs), toNat_bitsLen64, toNat_sub_one (by omega), hn, Int.toNat_natCast,
      ceilPow2_eq, Nat.max_eq_left (by omega), one_shiftLeft]

theorem toInt_ceilPow2 {m : Nat} (h : m ≤ 2 ^ 62) :
    (BitVec.ofNat 64 (ceilPow2 m)).toInt = ceilPow2 m := by
  have := (ceilPow2_le_iff (n := m) (j := 62)).2 (by omega)
  exact toInt_ofNat_of_lt (by omega)

theorem ceil_spec (n : BitVec 64) (h : n.toInt ≤ 2 ^ 62) :
    ∃ r, Gen.CeilToPowerOfTwo n = some r ∧ IsPow2 r.toInt ∧ max n.toInt 2 ≤ r.toInt ∧
      ∀ p : Int, IsPow2 p → max n.toInt 2 ≤ p → r.toInt ≤ p := by
  refine ⟨_, ceil_eq n h, ?_⟩
  rw [toInt_ceilPow2 (by omega)]
  refine ⟨isPow2_natCast.2 (ceilPow2_isPow2 _), ?_, fun p hp hle => ?_⟩
  · have := le_ceilPow2 n.toInt.toNat; omega
  · obtain ⟨j, rfl⟩ := isPow2_iff.1 hp
    have := (ceilPow2_le_iff (n := n.toInt.toNat) (j := j)).2 (by omega)
    omega

theorem ceil_panics (n : BitVec 64) : Gen.CeilToPowerOfTwo n = none ↔ 2 ^ 62 < n.toInt := by
  by_cases h : 2 ^ 62 < n.toInt
  · rw [Gen.CeilToPowerOfTwo, if_pos ((ceil_guard n).2 h)]; exact iff_of_true rfl h
  · rw [ceil_eq n (by omega)]; exact iff_of_false nofun h

theorem ceil_eq_ceilPow2 (n : Nat) (h : n ≤ 2 ^ 62) :
    Gen.CeilToPowerOfTwo (BitVec.ofNat 64 n) = some (BitVec.ofNat 64 (ceilPow2 n)) := by
  have := toInt_ofNat_of_lt (m := n) (by omega)
  rw [ceil_eq _ (by omega), this, Int.toNat_natCast]

theorem ceil_idempotent (n : BitVec 64) (h : n.toInt ≤ 2 ^ 62) :
    ∃ r, Gen.CeilToPowerOfTwo n = some r ∧ Gen.CeilToPowerOfTwo r = some r := by
  refine ⟨_, ceil_eq n h, ?_⟩
  have := (ceilPow2_le_iff (n := n.toInt.toNat) (j := 62)).2 (by omega)
  rw [ceil_eq_ceilPow2 _ this, ceilPow2_idem]

theorem toNat_sshiftRight {y : BitVec 64} {k : Nat} (hk : k < 63) (hy : y.toNat < 2 ^ (k + 1)) (w : Nat) :
    (y.sshiftRight w).toNat = y.toNat >>> w := by
  have : 2 ^ (k + 1) ≤ 2 ^ 63 := pow_le_pow_iff.2 hk
  rw [BitVec.sshiftRight_eq_of_msb_false (by rw [BitVec.msb_eq_false_iff_two_mul_lt]; omega),
    BitVec.toNat_ushiftRight]

theorem smeared_step_bv {k w : Nat} {y : BitVec 64} (hk : k < 63) (h : Smeared k w y.toNat) :
    Smeared k (w + w) (y ||| y.sshiftRight w).toNat := by
  rw [BitVec.toNat_or, toNat_sshiftRight hk (smeared_lt h)]
  exact smeared_step (Nat.le_refl w) h

theorem sub_half {y : BitVec 64} {k : Nat} (hk : k < 63) (hy : y.toNat = 2 ^ (k + 1) - 1) :
    y - y.sshiftRight 1 = BitVec.ofNat 64 (2 ^ k) := by
  have hlt : 2 ^ k < 2 ^ 64 := pow_lt_pow_iff.2 (by omega)
  have hs := toNat_sshiftRight (y := y) hk (by have := Nat.two_pow_pos (k + 1); omega) 1
  apply BitVec.eq_of_toNat_eq
  rw [BitVec.toNat_sub_of_le (by rw [BitVec.le_def, hs]; exact Nat.shiftRight_le ..), hs,
    BitVec.toNat_ofNat, Nat.mod_eq_of_lt hlt, Nat.shiftRight_eq_div_pow, hy, Nat.pow_succ]
  omega

theorem floor_eq (n : BitVec 64) (h : 2 < n.toInt) :
    ∃ r, Gen.FloorToPowerOfTwo n = some r ∧ r.toInt = ((2 ^ Nat.log2 n.toInt.toNat : Nat) : Int) := by
  obtain ⟨hn, h63⟩ := toInt_eq_toNat_and_lt n (by omega)
  have h0 : n.toNat ≠ 0 := by omega
  have hk : n.toNat.log2 < 63 := (Nat.log2_lt h0).2 h63
  refine ⟨BitVec.ofNat 64 (2 ^ n.toNat.log2), ?_, ?_⟩
  · rw [Gen.FloorToPowerOfTwo, if_neg (mt sle_two.1 (by omega))]
    -- six doublings of the run of ones below the top bit: widths 2, 4, .., 64 > log2 n
    have h6 := smeared_step_bv hk <| smeared_step_bv hk <| smeared_step_bv hk <|
      smeared_step_bv hk <| smeared_step_bv hk <| smeared_step_bv hk (smeared_init h0)
    exact congrArg some (sub_half hk (smeared_full (by omega) h6))
  · rw [hn, Int.toNat_natCast]
    exact toInt_ofNat_of_lt (pow_lt_pow_iff.2 hk)

theorem floor_small (n : BitVec 64) (h : n.toInt ≤ 2) : Gen.FloorToPowerOfTwo n = some n := by
  unfold Gen.FloorToPowerOfTwo
  exact if_pos (sle_two.2 h)

theorem floor_spec (n : BitVec 64) :
    ∃ r, Gen.FloorToPowerOfTwo n = some r ∧
      (n.toInt ≤ 2 → r = n) ∧
      (2 < n.toInt → IsPow2 r.toInt ∧ r.toInt ≤ n.toInt ∧ n.toInt < 2 * r.toInt) := by
  by_cases hs : n.toInt ≤ 2
  · exact ⟨n, floor_small n hs, fun _ => rfl, fun h => by omega⟩
  · obtain ⟨r, hr, e⟩ := floor_eq n (by omega)
    have hlo := Nat.log2_self_le (n := n.toInt.toNat) (by omega)
    have hhi := @Nat.lt_log2_self n.toInt.toNat
    rw [Nat.pow_succ] at hhi
    refine ⟨r, hr, fun h => by omega, fun _ => ?_⟩
    rw [e]
    exact ⟨isPow2_natCast.2 ⟨_, rfl⟩, by omega, by omega⟩

theorem pow_le_two_pow_log2 {j m : Nat} (h0 : m ≠ 0) (h : 2 ^ j ≤ m) : 2 ^ j ≤ 2 ^ m.log2 :=
  pow_le_pow_iff.2 ((Nat.le_log2 h0).2 h)

theorem closest_counterexample :
    Gen.ClosestPowerOfTwo (BitVec.ofNat 64 (2 ^ 62 + 1)) = none := by decide

theorem toInt_sub_of_le {a b : BitVec 64} (hb : 0 ≤ b.toInt) (h : b.toInt ≤ a.toInt) :
    (a - b).toInt = a.toInt - b.toInt := by
  have := @BitVec.toInt_lt 64 a
  rw [BitVec.toInt_sub, Int.bmod_eq_of_le_mul_two (by omega) (by omega)]

theorem toInt_sdiv_two {x : BitVec 64} (h : 0 ≤ x.toInt) : (x.sdiv 2#64).toInt = x.toInt / 2 :=
  (BitVec.toInt_sdiv_of_ne_or_ne x _ (.inr (by decide))).trans (Int.tdiv_eq_ediv_of_nonneg h)

theorem nearest_of_bracket {x lo hi : Int} {k : Nat} (elo : lo = (2 ^ k : Nat))
    (ehi : hi = (2 ^ (k + 1) : Nat))
    (hlo : lo ≤ x) (hhi : x ≤ hi) {r : Int} (hr : r = if x - lo < hi - x then lo else hi) :
    IsPow2 r ∧ ∀ p : Int, IsPow2 p →
      (x - r).natAbs ≤ (x - p).natAbs ∧ ((x - r).natAbs = (x - p).natAbs → p ≤ r) := by
  refine ⟨isPow2_iff.2 ?_, fun p hp => ?_⟩
  · split at hr
    · exact ⟨_, hr.trans elo⟩
    · exact ⟨_, hr.trans ehi⟩
  obtain ⟨j, rfl⟩ := isPow2_iff.1 hp
  have : 2 ^ j ≤ 2 ^ k ∨ 2 ^ (k + 1) ≤ 2 ^ j := by
    rw [pow_le_pow_iff, pow_le_pow_iff]; omega
  rw [Nat.pow_succ] at ehi this
  split at hr <;> omega

theorem closest_spec_partial (n : BitVec 64) (h1 : 1 ≤ n.toInt) (h2 : n.toInt ≤ 2 ^ 62) :
    ∃ r, Gen.ClosestPowerOfTwo n = some r ∧ IsPow2 r.toInt ∧
      ∀ p : Int, IsPow2 p →
        (Int.natAbs (n.toInt - r.toInt) ≤ Int.natAbs (n.toInt - p)) ∧
        (Int.natAbs (n.toInt - r.toInt) = Int.natAbs (n.toInt - p) → p ≤ r.toInt) := by
  obtain ⟨k, hk, hlo, hhi⟩ := ceilPow2_bracket (m := n.toInt.toNat) (by omega)
  have hn := toInt_ceilPow2 (m := n.toInt.toNat) (by omega)
  rw [Gen.ClosestPowerOfTwo, ceil_eq n h2, Option.bind_some]
  rw [hk] at hn ⊢
  generalize BitVec.ofNat 64 (2 ^ (k + 1)) = next at hn ⊢
  have hp : (next.sdiv 2#64).toInt = (2 ^ k : Nat) := by
    rw [toInt_sdiv_two (by omega), hn, Nat.pow_succ]; omega
  generalize next.sdiv 2#64 = prev at hp ⊢
  simp only [BitVec.slt_iff_toInt_lt]
  rw [toInt_sub_of_le (b := prev) (by omega) (by omega),
    toInt_sub_of_le (b := n) (by omega) (by omega)]
  exact ⟨_, (apply_ite some ..).symm,
    nearest_of_bracket hp hn (by omega) (by omega) (apply_ite BitVec.toInt ..)⟩

theorem bs_index_eq (s : BitVec 32) (h : 1 ≤ s.toNat) :
    ∃ i, Gen.bsIndex s = some i ∧ i.toNat = bitLen (s.toNat - 1) := by
  have : bitLen (s.toNat - 1) ≤ 32 := bitLen_le_iff.2 (by omega)
  refine ⟨_, rfl, ?_⟩
  rw [BitVec.toNat_setWidth, toNat_bitsLen32, toNat_sub_one h, Nat.mod_eq_of_lt (by omega)]

theorem bs_index_spec (s : BitVec 32) (h1 : 1 ≤ s.toNat) (h2 : s.toNat ≤ 2 ^ 31) :
    ∃ i, Gen.bsIndex s = some i ∧ s.toNat ≤ 2 ^ i.toNat ∧
      ∀ j : Nat, s.toNat ≤ 2 ^ j → i.toNat ≤ j := by
  -- `h2` plays no part; `omega` takes it up, which keeps the unused-variable linter quiet
  obtain ⟨i, hi, e⟩ := bs_index_eq s (by omega : 0 < s.toNat)
  refine ⟨i, hi, ?_⟩
  rw [e]
  exact ⟨le_two_pow_bitLen_pred _, fun j => bitLen_pred_le_iff.2⟩

end Gnet.Proofs.Arith
