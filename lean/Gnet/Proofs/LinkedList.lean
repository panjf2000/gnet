/-
  C11: `linkedlist.Buffer` refines the segmented FIFO `SegFifo`. What an operation does to the
  buffer is said once, as `Next l c l'`: the step theorem, the ownership theorem and the elastic
  buffer (C10) read their part off it. The counters only enter through `wf_iff`.
-/
import Gnet.Model.LinkedList
import Gnet.Proofs.Simulation
import Gnet.Proofs.Fresh
namespace Gnet.Proofs.LinkedList
open Gnet
variable {α : Type}

def flat (segs : List (Seg α)) : List α := (segs.map (·.data)).flatten

@[simp] theorem flat_nil : flat ([] : List (Seg α)) = [] := rfl
@[simp] theorem flat_cons (b : Seg α) (rest : List (Seg α)) :
    flat (b :: rest) = b.data ++ flat rest := by
  simp [flat]
@[simp] theorem flat_append (a b : List (Seg α)) : flat (a ++ b) = flat a ++ flat b := by
  simp [flat]

theorem abs_eq (l : LL α) : l.abs = flat l.segs := rfl
@[simp] theorem abs_mk (segs : List (Seg α)) (s b : Int) : (LL.mk segs s b).abs = flat segs := rfl

theorem wf_iff (l : LL α) :
    l.WF ↔ l.size = l.segs.length ∧ l.bytes = (flat l.segs).length ∧ ∀ s ∈ l.segs, s.data ≠ [] := by
  have : (l.segs.map (·.data.length)).sum = (flat l.segs).length := by
    simp [flat, List.length_flatten, Function.comp_def]
  exact ⟨fun ⟨a, b, c⟩ => ⟨a, this ▸ b, c⟩, fun ⟨a, b, c⟩ => ⟨a, this ▸ b, c⟩⟩

theorem wf_nil : (LL.mk ([] : List (Seg α)) 0 0).WF := (wf_iff _).mpr ⟨rfl, rfl, nofun⟩

theorem abs_of_isEmpty (l : LL α) (h : l.isEmpty = true) : l.abs = [] := by
  rw [abs_eq, List.isEmpty_iff.mp h, flat_nil]

theorem counters (l : LL α) (h : l.WF) :
    l.buffered = (l.abs.length : Int) ∧ l.len = (l.segs.length : Int) ∧
    (l.isEmpty = true ↔ l.buffered = 0) := by
  obtain ⟨h1, h2, h3⟩ := (wf_iff l).mp h
  refine ⟨h2, h1, ?_⟩
  rcases l with ⟨_ | ⟨b, rest⟩, size, bytes⟩
  · simpa [LL.isEmpty, LL.buffered] using h2
  · have := List.length_pos_iff.mpr (h3 b (List.mem_cons_self ..))
    simp only [flat_cons, List.length_append] at h2
    simp only [LL.isEmpty, LL.buffered, List.isEmpty_cons, Bool.false_eq_true, false_iff]
    omega

/-- what every operation except `Append` establishes of its result `l'`, holding `c` -/
structure Next (l : LL α) (c : List α) (l' : LL α) : Prop where
  abs : l'.abs = c
  wf : l.WF → l'.WF
  owned : l.AllOwned → l'.AllOwned

namespace Next
variable {b : Seg α} {rest : List (Seg α)} {size bytes : Int} {k : Nat} {l l' l'' : LL α}
  {c c' : List α}

theorem of_abs (h : l.abs = c) : Next l c l := ⟨h, id, id⟩

theorem trans (h : Next l c l') (h' : Next l' c' l'') : Next l c' l'' :=
  ⟨h'.abs, h'.wf ∘ h.wf, h'.owned ∘ h.owned⟩

/-! Each round of the loops of `Read`, `Discard` and `WriteTo` pops the head segment and either is
    done with it (`cons`; `pop` if the loop ends there) or pushes its rest back (`reslice`). -/

theorem cons (hk : b.data.length ≤ k)
    (h : Next ⟨rest, size - 1, bytes - b.data.length⟩ ((flat rest).drop (k - b.data.length)) l') :
    Next ⟨b :: rest, size, bytes⟩ ((flat (b :: rest)).drop k) l' := by
  refine ⟨?_, fun hw => h.wf ?_, fun ho => h.owned (List.forall_mem_cons.mp ho).2⟩
  · rw [h.abs]; simp [List.drop_append, List.drop_eq_nil_of_le hk]
  · rw [wf_iff] at hw ⊢
    simp only [List.length_cons, flat_cons, List.length_append, List.forall_mem_cons] at hw ⊢
    exact ⟨by omega, by omega, hw.2.2.2⟩

theorem pop :
    Next ⟨b :: rest, size, bytes⟩ ((flat (b :: rest)).drop b.data.length)
      ⟨rest, size - 1, bytes - b.data.length⟩ :=
  cons (Nat.le_refl _) (of_abs (by rw [Nat.sub_self]; rfl))

theorem reslice (hk : k < b.data.length) :
    Next ⟨b :: rest, size, bytes⟩ ((flat (b :: rest)).drop k)
      ⟨⟨b.data.drop k, b.owned⟩ :: rest, size - 1 + 1,
        bytes - b.data.length + (b.data.length - k : Nat)⟩ := by
  refine ⟨?_, fun hw => ?_, fun ho => List.forall_mem_cons.mpr (List.forall_mem_cons.mp ho)⟩
  · simp [List.drop_append_of_le_length (Nat.le_of_lt hk)]
  · rw [wf_iff] at hw ⊢
    simp only [List.length_cons, flat_cons, List.length_append, List.length_drop,
      List.forall_mem_cons, ne_eq, List.drop_eq_nil_iff] at hw ⊢
    exact ⟨by omega, by omega, by omega, hw.2.2.2⟩

end Next

theorem readLoop_spec (segs : List (Seg α)) (size bytes : Int) (want : Nat) :
    Next ⟨segs, size, bytes⟩ ((flat segs).drop want) (LL.readLoop segs size bytes want).2 ∧
    (LL.readLoop segs size bytes want).1 = (flat segs).take want := by
  induction segs generalizing size bytes want with
  | nil => exact ⟨.of_abs List.drop_nil.symm, by simp [LL.readLoop]⟩
  | cons b rest ih =>
    unfold LL.readLoop
    simp only [flat_cons, List.take_append]
    by_cases hw : want < b.data.length
    · rw [Nat.min_eq_left (Nat.le_of_lt hw), if_pos hw, Nat.sub_eq_zero_of_le (Nat.le_of_lt hw)]
      exact ⟨.reslice hw, by simp⟩
    · have hw := Nat.le_of_not_lt hw
      rw [Nat.min_eq_right hw, if_neg (Nat.lt_irrefl _), List.take_of_length_le hw]
      by_cases h0 : want - b.data.length = 0
      · rw [if_pos h0, h0]
        exact ⟨.cons hw (.of_abs (h0 ▸ rfl)), by simp⟩
      · have ⟨i1, i2⟩ := ih (size - 1) (bytes - b.data.length) (want - b.data.length)
        rw [if_neg h0, i2]
        exact ⟨.cons hw i1, rfl⟩

theorem discardLoop_spec (segs : List (Seg α)) (size bytes : Int) (n d : Nat) :
    Next ⟨segs, size, bytes⟩ ((flat segs).drop n) (LL.discardLoop segs size bytes n d).2 ∧
    (LL.discardLoop segs size bytes n d).1 = d + min n (flat segs).length := by
  induction segs generalizing size bytes n d with
  | nil => unfold LL.discardLoop; split <;> exact ⟨.of_abs List.drop_nil.symm, by simp⟩
  | cons b rest ih =>
    unfold LL.discardLoop
    simp only [flat_cons, List.length_append]
    by_cases h0 : n = 0
    · subst h0; exact ⟨.of_abs rfl, by simp⟩
    · rw [if_neg h0]
      by_cases h1 : n < b.data.length
      · rw [if_pos h1, Nat.min_eq_left (Nat.le_trans (Nat.le_of_lt h1) (Nat.le_add_right ..))]
        exact ⟨.reslice h1, rfl⟩
      · have hw := Nat.le_of_not_lt h1
        have ⟨i1, i2⟩ :=
          ih (size - 1) (bytes - b.data.length) (n - b.data.length) (d + b.data.length)
        rw [if_neg h1, i2, Nat.add_assoc, ← Nat.add_min_add_left, Nat.add_sub_cancel' hw]
        exact ⟨.cons hw i1, rfl⟩

theorem wstep_le (sc : List WStep) (k : Nat) :
    ∃ m err rest, LL.wstep sc k = (m, err, rest) ∧ m ≤ k := by
  cases sc with
  | nil => exact ⟨_, _, _, rfl, Nat.zero_le k⟩
  | cons s rest => exact ⟨_, _, _, rfl, Nat.min_le_right ..⟩

theorem writeToLoop_spec (segs : List (Seg α)) (size bytes : Int) (sc : List WStep) (n : Nat)
    (sink : List α) :
    ∃ m, m ≤ (flat segs).length ∧
      Next ⟨segs, size, bytes⟩ ((flat segs).drop m) (LL.writeToLoop segs size bytes sc n sink).1 ∧
      (LL.writeToLoop segs size bytes sc n sink).2.1 = n + m ∧
      (LL.writeToLoop segs size bytes sc n sink).2.2.2 = sink ++ (flat segs).take m ∧
      ((LL.writeToLoop segs size bytes sc n sink).2.2.1 = .nil → m = (flat segs).length) := by
  induction segs generalizing size bytes sc n sink with
  | nil => exact ⟨0, Nat.le_refl _, .of_abs rfl, rfl, by simp [LL.writeToLoop], fun _ => rfl⟩
  | cons b rest ih =>
    obtain ⟨m, err, sc', hx, hm⟩ := wstep_le sc b.data.length
    unfold LL.writeToLoop
    simp only [flat_cons, List.length_append, List.take_append, hx]
    by_cases h1 : m < b.data.length
    · rw [if_pos h1]
      refine ⟨m, Nat.le_trans hm (Nat.le_add_right ..), .reslice h1, rfl,
        by simp [Nat.sub_eq_zero_of_le hm], fun he => ?_⟩
      split at he
      · cases he
      · contradiction
    · have hm : m = b.data.length := Nat.le_antisymm hm (Nat.le_of_not_lt h1)
      subst hm
      rw [if_neg h1]
      by_cases he : err ≠ .nil
      · rw [if_pos he]
        exact ⟨b.data.length, Nat.le_add_right .., .pop, rfl, by simp,
          fun h' => absurd h' he⟩
      · obtain ⟨m', j1, j2, j3, j4, j5⟩ := ih (size - 1) (bytes - b.data.length) sc'
          (n + b.data.length) (sink ++ b.data)
        rw [if_neg he]
        exact ⟨b.data.length + m', Nat.add_le_add_left j1 _,
          .cons (Nat.le_add_right ..) (by simpa using j2), by rw [j3, Nat.add_assoc],
          by simp [j4, List.take_of_length_le], fun h' => by rw [j5 h']⟩

theorem read_spec (l : LL α) (n : Nat) :
    Next l (l.abs.drop n) (l.read n).1 ∧ (l.read n).2.1 = l.abs.take n ∧
    ((l.read n).2.2 = .nil ∨ (l.abs = [] ∧ 0 < n)) := by
  unfold LL.read
  split
  · next hn => subst hn; exact ⟨.of_abs rfl, rfl, .inl rfl⟩
  · next hn =>
    have ⟨r1, r2⟩ := readLoop_spec l.segs l.size l.bytes n
    refine ⟨r1, r2, ?_⟩
    simp only [r2, List.length_take]
    split
    · next hd => exact .inr ⟨List.length_eq_zero_iff.mp (by rw [abs_eq]; omega), by omega⟩
    · exact .inl rfl

theorem discard_spec (l : LL α) (n : Int) :
    Next l (l.abs.drop n.toNat) (l.discard n).1 ∧ (l.discard n).2 = min n.toNat l.abs.length := by
  unfold LL.discard
  split
  · next hn => simp [Int.toNat_of_nonpos hn, Next.of_abs]
  · have ⟨r1, r2⟩ := discardLoop_spec l.segs l.size l.bytes n.toNat 0
    exact ⟨r1, r2.trans (Nat.zero_add _)⟩

theorem writeTo_spec (l : LL α) (sc : List WStep) :
    (l.writeTo sc).2.1 ≤ l.abs.length ∧
    Next l (l.abs.drop (l.writeTo sc).2.1) (l.writeTo sc).1 ∧
    (l.writeTo sc).2.2.2 = l.abs.take (l.writeTo sc).2.1 ∧
    ((l.writeTo sc).2.2.1 = .nil → (l.writeTo sc).2.1 = l.abs.length) := by
  obtain ⟨m, h1, h2, h3, h4, h5⟩ := writeToLoop_spec l.segs l.size l.bytes sc 0 []
  rw [Nat.zero_add] at h3
  rw [LL.writeTo, h3]
  exact ⟨h1, h2, h4, h5⟩

theorem peek_round (b : List α) {cum mx off : Nat} (h : cum ≤ mx)
    (ho : (if cum + b.length > mx then mx - cum else b.length) = off) :
    b.take off = b.take (mx - cum) ∧
    if cum + off = mx then mx - cum ≤ b.length else off = b.length ∧ cum + off < mx := by
  subst ho
  by_cases hc : cum + b.length > mx
  · rw [if_pos hc, if_pos (Nat.add_sub_cancel' h)]
    exact ⟨rfl, by omega⟩
  · have hc := Nat.le_of_not_lt hc
    rw [if_neg (Nat.not_lt_of_le hc), List.take_of_length_le (Nat.le_refl _),
      List.take_of_length_le (Nat.le_sub_of_add_le' hc)]
    refine ⟨rfl, ?_⟩
    by_cases he : cum + b.length = mx
    · rw [if_pos he, ← he, Nat.add_sub_cancel_left]; exact Nat.le_refl _
    · rw [if_neg he]; exact ⟨rfl, Nat.lt_of_le_of_ne hc he⟩

theorem peekLoop_spec (bs : List (List α)) (cum mx : Nat) (h : cum ≤ mx) :
    (LL.peekLoop bs cum mx).1.flatten = bs.flatten.take (mx - cum) := by
  induction bs generalizing cum with
  | nil => simp [LL.peekLoop]
  | cons b rest ih =>
    unfold LL.peekLoop
    simp only [List.flatten_cons, List.take_append]
    generalize ho : (if cum + b.length > mx then mx - cum else b.length) = off
    have ⟨h1, h2⟩ := peek_round b h ho
    split at h2
    · next he => simp [if_pos he, h1, Nat.sub_eq_zero_of_le h2]
    · next he =>
      obtain ⟨rfl, h3⟩ := h2
      rw [if_neg he, List.flatten_cons, h1, ih _ (by omega), Nat.sub_add_eq]

/-- the two loops of `PeekWithBytes` as one: the slices `bs`, then (unless that was enough) the
    segments `ss` -/
theorem pwb_body (bs ss : List (List α)) (cum mx : Nat) (h : cum ≤ mx) :
    (if (LL.pwbLoop bs cum mx).2.2 then (LL.pwbLoop bs cum mx).1
     else (LL.pwbLoop bs cum mx).1 ++ (LL.peekLoop ss (LL.pwbLoop bs cum mx).2.1 mx).1).flatten
      = (bs.flatten ++ ss.flatten).take (mx - cum) := by
  induction bs generalizing cum with
  | nil => simpa [LL.pwbLoop] using peekLoop_spec ss cum mx h
  | cons b rest ih =>
    unfold LL.pwbLoop
    by_cases h0 : b.length > 0
    · rw [if_pos h0]
      generalize ho : (if cum + b.length > mx then mx - cum else b.length) = off
      have ⟨h1, h2⟩ := peek_round b h ho
      split at h2
      · next he => simp [if_pos he, h1, List.take_append, Nat.sub_eq_zero_of_le h2]
      · next he =>
        obtain ⟨rfl, h3⟩ := h2
        have i := ih (cum + b.length) (Nat.le_of_lt h3)
        rw [if_neg he]
        dsimp only
        split at i
        · next hd =>
          simp only [hd, if_true, List.flatten_cons, i, h1, List.append_assoc, List.take_append,
            Nat.sub_add_eq]
        · next hd =>
          simp only [hd, Bool.false_eq_true, if_false, List.cons_append, List.flatten_cons, i, h1,
            List.append_assoc, List.take_append, Nat.sub_add_eq]
    · rw [if_neg h0]
      have hb : b = [] := List.length_eq_zero_iff.mp (Nat.eq_zero_of_not_pos h0)
      subst hb
      simpa using ih cum h

theorem peekWithBytes_spec (l : LL α) (n : Int) (bs : List (List α)) (h : l.WF) :
    if 0 < n ∧ n ≠ (LL.maxInt32 : Int) ∧ (bs.flatten ++ l.abs).length < n.toNat then
      l.peekWithBytes n bs = ([], .shortBuffer)
    else (l.peekWithBytes n bs).2 = .nil ∧ (l.peekWithBytes n bs).1.flatten =
      (bs.flatten ++ l.abs).take
        (if n ≤ 0 ∨ n = (LL.maxInt32 : Int) then LL.maxInt32 else n.toNat) := by
  -- Go's test `n > Buffered + Σ len b`, over `Int`, becomes the statement's, over `Nat`
  simp only [LL.peekWithBytes, ← List.length_flatten, (counters l h).1, List.length_append,
    gt_iff_lt, ← Int.natCast_add, ← Int.lt_toNat, Nat.add_comm l.abs.length]
  split
  · trivial
  · generalize (if n ≤ 0 ∨ n = (LL.maxInt32 : Int) then LL.maxInt32 else n.toNat) = mx
    simp only [apply_ite Prod.snd, apply_ite Prod.fst, ite_self, true_and]
    exact pwb_body bs _ 0 mx (Nat.zero_le _)

theorem reset_spec (l : LL α) : Next l [] l.reset := ⟨rfl, fun _ => wf_nil, fun _ _ h => nomatch h⟩

@[simp] theorem abs_pushBack (l : LL α) (b : Seg α) : (l.pushBack b).abs = l.abs ++ b.data := by
  simp [LL.pushBack, LL.abs]

@[simp] theorem abs_pushFront (l : LL α) (b : Seg α) : (l.pushFront b).abs = b.data ++ l.abs := by
  simp [LL.pushFront, LL.abs]

theorem wf_pushBack (l : LL α) (b : Seg α) (h : l.WF) (hb : b.data ≠ []) : (l.pushBack b).WF := by
  have ⟨h1, h2, h3⟩ := (wf_iff l).mp h
  rw [LL.pushBack, wf_iff]
  simp only [List.length_append, List.length_cons, List.length_nil, flat_append, flat_cons,
    flat_nil, List.append_nil, List.forall_mem_append, List.forall_mem_singleton]
  exact ⟨by omega, by omega, h3, hb⟩

theorem wf_pushFront (l : LL α) (b : Seg α) (h : l.WF) (hb : b.data ≠ []) : (l.pushFront b).WF := by
  have ⟨h1, h2, h3⟩ := (wf_iff l).mp h
  rw [LL.pushFront, wf_iff]
  simp only [List.length_cons, flat_cons, List.length_append, List.forall_mem_cons]
  exact ⟨by omega, by omega, hb, h3⟩

/-- stated about `l'` so that one lemma serves `l.pushBackCopy p` (`o = true`) and `l.append p`
    (`o = false`: the caller's slice is linked): both are this `if` by definition -/
theorem pushBack_guard (l : LL α) (p : List α) (o : Bool) {l' : LL α}
    (hl : (if p.length = 0 then l else l.pushBack ⟨p, o⟩) = l') :
    l'.abs = l.abs ++ p ∧ (l.WF → l'.WF) ∧ (o = true → l.AllOwned → l'.AllOwned) := by
  subst hl
  split
  · next hp => simp [List.length_eq_zero_iff.mp hp]
  · next hp =>
    exact ⟨abs_pushBack .., fun hw => wf_pushBack _ _ hw fun h' => hp (congrArg List.length h'),
      fun ho h => List.forall_mem_append.mpr ⟨h, List.forall_mem_singleton.mpr ho⟩⟩

theorem pushBackCopy_spec (l : LL α) (p : List α) : Next l (l.abs ++ p) (l.pushBackCopy p) :=
  have ⟨a, w, o⟩ := pushBack_guard l p true rfl
  ⟨a, w, o rfl⟩

theorem foldl_pushBackCopy_spec (bs : List (List α)) (l : LL α) :
    Next l (l.abs ++ bs.flatten) (bs.foldl (fun l b => l.pushBackCopy b) l) := by
  induction bs generalizing l with
  | nil => exact .of_abs (List.append_nil _).symm
  | cons b rest ih =>
    have hp := pushBackCopy_spec l b
    have i := ih (l.pushBackCopy b)
    rw [hp.abs, List.append_assoc] at i
    exact hp.trans i

theorem pushFrontCopy_spec (l : LL α) (p : List α) : Next l (p ++ l.abs) (l.pushFrontCopy p) := by
  unfold LL.pushFrontCopy
  split
  · next hp => simp [List.length_eq_zero_iff.mp hp, Next.of_abs]
  · next hp =>
    exact ⟨abs_pushFront .., fun hw => wf_pushFront _ _ hw fun h' => hp (congrArg List.length h'),
      fun h => List.forall_mem_cons.mpr ⟨rfl, h⟩⟩

theorem popBytes_spec (l : LL α) :
    ∃ k, k ≤ l.abs.length ∧ (l.WF → (k = 0 ↔ l.abs = [])) ∧
      Next l (l.abs.drop k) l.popBytes.2 ∧ l.popBytes.1.getD [] = l.abs.take k := by
  rcases l with ⟨_ | ⟨b, rest⟩, size, bytes⟩
  · exact ⟨0, Nat.le_refl _, fun _ => ⟨fun _ => rfl, fun _ => rfl⟩, .of_abs rfl, rfl⟩
  · refine ⟨b.data.length, by simp, fun hw => ?_, .pop,
      by simp [LL.popBytes, LL.pop]⟩
    simp [((wf_iff _).mp hw).2.2 b (List.mem_cons_self ..)]

theorem readFrom_spec (gen : Nat → α) (l : LL α) (pos n : Nat) (sc : List RStep) :
    Next l (l.abs ++ Fifo.fresh gen pos (SegFifo.rfCount LL.minRead sc))
      (l.readFrom gen pos n sc).1 ∧
    (l.readFrom gen pos n sc).2.1 = n + SegFifo.rfCount LL.minRead sc ∧
    (l.readFrom gen pos n sc).2.2.1 = SegFifo.rfErr sc ∧
    (l.readFrom gen pos n sc).2.2.2 = pos + SegFifo.rfCount LL.minRead sc := by
  induction sc generalizing l pos n with
  | nil => simp [LL.readFrom, SegFifo.rfCount, SegFifo.rfErr, Next.of_abs]
  | cons st rest ih =>
    unfold LL.readFrom
    simp only [SegFifo.rfCount, SegFifo.rfErr]
    generalize min st.k LL.minRead = m
    have hl : (if m > 0 then l.pushBack ⟨Fifo.fresh gen pos m, true⟩ else l)
        = l.pushBackCopy (Fifo.fresh gen pos m) := by
      simp [LL.pushBackCopy, Nat.pos_iff_ne_zero]
    rw [hl]
    have hp := pushBackCopy_spec l (Fifo.fresh gen pos m)
    by_cases he : st.err = .eof
    · simp [he, hp]
    · by_cases hn : st.err = .nil
      · have ⟨i1, i2, i3, i4⟩ := ih (l.pushBackCopy (Fifo.fresh gen pos m)) (pos + m) (n + m)
        rw [hp.abs, List.append_assoc, ← Fifo.fresh_add] at i1
        simp only [if_neg he, if_pos hn, if_neg (not_not_intro hn), i2, i3, i4, Nat.add_assoc]
        exact ⟨hp.trans i1, trivial, trivial, trivial⟩
      · simp [he, hn, hp]

theorem rfErr_ne_eof (sc : List RStep) : SegFifo.rfErr sc ≠ .eof := by
  induction sc with
  | nil => simp [SegFifo.rfErr]
  | cons st rest ih =>
    simp only [SegFifo.rfErr]
    split
    · simp
    · split
      · assumption
      · exact ih

theorem step_refines (gen : Nat → α) (l : LL α) (pos : Nat) (op : SegFifo.Op α) (h : l.WF) :
    (LL.step gen (l, pos) op).1.1.WF ∧
    SegFifo.Step gen LL.minRead (l.abs, pos) op
      ((LL.step gen (l, pos) op).1.1.abs, (LL.step gen (l, pos) op).1.2)
      (LL.step gen (l, pos) op).2 := by
  cases op with
  | pushBack p =>
    have hp := pushBackCopy_spec l p
    simp only [LL.step, hp.abs]
    exact ⟨hp.wf h, .pushBack ..⟩
  | pushFront p =>
    have hp := pushFrontCopy_spec l p
    simp only [LL.step, hp.abs]
    exact ⟨hp.wf h, .pushFront ..⟩
  | append p =>
    have ⟨a, w, _⟩ := pushBack_guard l p false (l' := l.append p) rfl
    simp only [LL.step, a]
    exact ⟨w h, .append ..⟩
  | pop =>
    have ⟨k, hk, h0, r1, r2⟩ := popBytes_spec l
    simp only [LL.step, r1.abs, r2, List.length_take, Nat.min_eq_left hk]
    exact ⟨r1.wf h, .pop _ _ k hk (h0 h)⟩
  | read n =>
    have ⟨r1, r2, r3⟩ := read_spec l n
    simp only [LL.step, r1.abs, r2, List.length_take]
    exact ⟨r1.wf h, .read _ _ _ _ r3⟩
  | peek n =>
    have hp (mx) : (LL.peekLoop (l.segs.map (·.data)) 0 mx).1.flatten = l.abs.take mx :=
      peekLoop_spec _ 0 mx (Nat.zero_le _)
    simp only [LL.step, LL.peek, (counters l h).1, gt_iff_lt, ← Int.lt_toNat]
    refine ⟨h, ?_⟩
    by_cases h1 : n ≤ 0 ∨ n = (LL.maxInt32 : Int)
    · simp only [if_pos h1, hp, List.length_take]
      exact .peekAll _ _ _ h1
    · have hn : 0 < n := Int.lt_of_not_ge fun hc => h1 (.inl hc)
      by_cases h2 : l.abs.length < n.toNat
      · simp only [if_neg h1, if_pos h2]
        exact .peekShort _ _ _ hn (fun h' => h1 (.inr h')) h2
      · have h2 := Nat.le_of_not_lt h2
        simp only [if_neg h1, if_neg (Nat.not_lt_of_le h2), hp, List.length_take,
          Nat.min_eq_left h2]
        exact .peek _ _ _ hn (fun h' => h1 (.inr h')) h2
  | peekWithBytes n bs =>
    have hp := peekWithBytes_spec l n bs h
    simp only [LL.step]
    refine ⟨h, ?_⟩
    by_cases hs : 0 < n ∧ n ≠ (LL.maxInt32 : Int) ∧ (bs.flatten ++ l.abs).length < n.toNat
    · rw [if_pos hs] at hp
      rw [hp]
      exact .peekWithBytesShort _ _ _ _ hs.1 hs.2.1 hs.2.2
    · rw [if_neg hs] at hp
      simp only [hp.1, hp.2, List.length_take]
      by_cases h1 : n ≤ 0 ∨ n = (LL.maxInt32 : Int)
      · rw [if_pos h1]
        exact .peekWithBytesAll _ _ _ _ h1
      · have hn : 0 < n := Int.lt_of_not_ge fun hc => h1 (.inl hc)
        have hm : n ≠ (LL.maxInt32 : Int) := fun h' => h1 (.inr h')
        have hle := Nat.le_of_not_lt fun hc => hs ⟨hn, hm, hc⟩
        rw [if_neg h1, Nat.min_eq_left hle]
        exact .peekWithBytes _ _ _ _ hn hm hle
  | discard n =>
    have ⟨r1, r2⟩ := discard_spec l n
    simp only [LL.step, r1.abs, r2]
    exact ⟨r1.wf h, .discard ..⟩
  | readFrom sc =>
    have ⟨r1, r2, r3, r4⟩ := readFrom_spec gen l pos 0 sc
    simp only [LL.step, r1.abs, r2, r3, r4, Nat.zero_add]
    exact ⟨r1.wf h, .readFrom ..⟩
  | writeTo sc =>
    have ⟨r1, r2, r3, r4⟩ := writeTo_spec l sc
    simp only [LL.step, r2.abs, r3]
    exact ⟨r2.wf h, .writeTo _ _ sc _ _ r1 r4⟩
  | reset => exact ⟨wf_nil, .reset ..⟩

theorem run_refines_from (gen : Nat → α) (ops : List (SegFifo.Op α)) (s : LL α × Nat) (h : s.1.WF) :
    (LL.run gen s ops).1.1.WF ∧
    SegFifo.Run gen LL.minRead (s.1.abs, s.2) ops (LL.run gen s ops).2
      ((LL.run gen s ops).1.1.abs, (LL.run gen s ops).1.2) :=
  run_refines_of_step (LL.step gen) (LL.run gen) (Inv := fun s => s.1.WF)
    (abs := fun s => (s.1.abs, s.2)) (fun _ => rfl) (fun _ _ _ => rfl) SegFifo.Run.nil
    SegFifo.Run.cons (fun s => step_refines gen s.1 s.2) ops s h

end Gnet.Proofs.LinkedList
