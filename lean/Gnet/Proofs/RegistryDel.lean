import Gnet.Proofs.RegistryInv
namespace Gnet.Proofs.Registry
open Gnet

variable {m : Matrix} {s : RegSpec}

/-- `id` is gone from its cell `(r, cl)`, the last connection `mid` has moved there from `(lr, lc)`
    (unless it is `id` itself), the cursor is back on `(lr, lc)` -/
structure Removed (m : Matrix) (id r cl lr lc mid : Nat) (m' : Matrix) : Prop where
  rows : m'.rows = m.rows
  cols : m'.cols = m.cols
  dc : m'.disableCompact = m.disableCompact
  row : m'.row = lr
  col : m'.col = lc
  cell : ∀ r' c', cellT m'.table r' c' =
    if r' = lr ∧ c' = lc then none else if r' = r ∧ c' = cl then some mid else cellT m.table r' c'
  cnt : ∀ r', m'.counts r' = if r' = lr then (lc : Int) else m.counts r'
  fd : ∀ i, (m'.objs i).fd = (m.objs i).fd
  obj : ∀ i, i ≠ mid → m'.objs i = m.objs i
  moved : mid ≠ id → (m'.objs mid).grow = r ∧ (m'.objs mid).gcol = cl
  f2g : ∀ fd', m'.fd2gfd fd' =
    if fd' = (m.objs id).fd then none
    else if fd' = (m.objs mid).fd then some (r, cl) else m.fd2gfd fd'

theorem Inv.of_removed (h : Inv m s) {id r cl lr lc mid : Nat} {m' : Matrix}
    (hv : (s.fdOf id, id) ∈ s.live)
    (hid : cellT m.table r cl = some id) (hlast : cellT m.table lr lc = some mid)
    (hn : Next m.cols lr lc m.row m.col) (rm : Removed m id r cl lr lc mid m') :
    Inv m' (s.step (.del id)) := by
  have hlk := h.sinv.lookup_del hv
  have hidl : s.lookup (s.fdOf id) = some id := h.sinv.lookup_mem hv
  have hmidl : s.lookup (s.fdOf mid) = some mid := (h.obj hlast).2.2
  have hf2g := rm.f2g
  rw [h.objfd, h.objfd] at hf2g
  have hhi : ∀ r', hi m'.row m'.col m'.cols r' =
      if r' = lr then lc else hi m.row m.col m.cols r' := by
    intro r'
    rw [rm.row, rm.col, rm.cols, hn.hi]
    by_cases e : r' = lr
    · rw [if_pos e, e, hi_self]
    · rw [if_neg e, if_neg e]
  exact
    { c2 := by rw [rm.cols]; exact h.c2
      rle := by rw [rm.rows]; exact h.rle
      cle := by rw [rm.cols]; exact h.cle
      sinv := h.sinv.del id
      dc := rm.dc.trans h.dc
      cur := by
        rw [rm.rows, rm.cols, rm.row, rm.col]
        have := h.cur
        rcases hn with a | a <;> omega
      dense := by
        intro r' c'
        have hocc : (cellT m'.table r' c').isSome ↔
            (cellT m.table r' c').isSome ∧ ¬ (r' = lr ∧ c' = lc) := by
          rw [rm.cell]
          by_cases e1 : r' = lr ∧ c' = lc
          · simp [e1]
          · by_cases e2 : r' = r ∧ c' = cl
            · simp [e2, hid]
            · simp [e1, e2]
        rw [hocc, h.dense, hhi, hn.hi]
        by_cases e : r' = lr
        · rw [if_pos e, if_pos e]; omega
        · rw [if_neg e, if_neg e]; omega
      cnt := by
        intro r'
        rw [rm.cnt, hhi]
        by_cases e : r' = lr
        · rw [if_pos e, if_pos e]
        · rw [if_neg e, if_neg e]; exact h.cnt r'
      obj := by
        intro r' c' i hc
        rw [rm.cell] at hc
        show _ ∧ _ ∧ (s.step (.del id)).lookup (s.fdOf i) = some i
        rw [hlk]
        by_cases e1 : r' = lr ∧ c' = lc
        · rw [if_pos e1] at hc; cases hc
        · rw [if_neg e1] at hc
          by_cases e2 : r' = r ∧ c' = cl
          · rw [if_pos e2] at hc
            cases hc
            obtain ⟨rfl, rfl⟩ := e2
            -- the hole is not the last cell, so `mid` is another connection
            have hmne : mid ≠ id := fun e => e1 (h.cell_inj hid hlast e.symm)
            obtain ⟨a, b⟩ := rm.moved hmne
            rw [if_neg (fdOf_ne hmidl hidl hmne)]
            exact ⟨a, b, hmidl⟩
          · rw [if_neg e2] at hc
            obtain ⟨a, b, d⟩ := h.obj hc
            have hne1 : i ≠ mid := fun e => e1 (h.cell_inj hc hlast e)
            have hne2 : i ≠ id := fun e => e2 (h.cell_inj hc hid e)
            rw [rm.obj i hne1, if_neg (fdOf_ne d hidl hne2)]
            exact ⟨a, b, d⟩
      objfd := by
        intro i
        rw [rm.fd]; exact h.objfd i
      fwd := by
        intro fd x hl
        rw [hlk] at hl
        by_cases hfd : fd = s.fdOf id
        · rw [if_pos hfd] at hl; cases hl
        · rw [if_neg hfd] at hl
          obtain rfl : s.fdOf x = fd := h.sinv.fdof _ (h.sinv.lookup_eq_some.1 hl)
          have hxid : x ≠ id := fun e => hfd (congrArg s.fdOf e)
          by_cases e1 : x = mid
          · -- the moved connection is found in the hole, which was not the last cell
            subst e1
            refine ⟨r, cl, ?_, ?_⟩
            · rw [hf2g, if_neg hfd, if_pos rfl]
            · rw [rm.cell, if_neg, if_pos ⟨rfl, rfl⟩]
              rintro ⟨rfl, rfl⟩
              exact hxid (Option.some.inj (hlast.symm.trans hid))
          · -- any other connection stays in its cell, neither the hole nor the last
            obtain ⟨r', c', h1, h2⟩ := h.fwd hl
            refine ⟨r', c', ?_, ?_⟩
            · rw [hf2g, if_neg hfd, if_neg (fdOf_ne hl hmidl e1)]
              exact h1
            · rw [rm.cell, if_neg, if_neg]
              · exact h2
              · rintro ⟨rfl, rfl⟩; exact hxid (Option.some.inj (h2.symm.trans hid))
              · rintro ⟨rfl, rfl⟩; exact e1 (Option.some.inj (h2.symm.trans hlast))
      nokey := by
        intro fd' hl
        rw [hlk] at hl
        rw [hf2g]
        by_cases hfd : fd' = s.fdOf id
        · rw [if_pos hfd]
        · rw [if_neg hfd] at hl ⊢
          have hfm : fd' ≠ s.fdOf mid := fun e => by rw [e, hmidl] at hl; cases hl
          rw [if_neg hfm]
          exact h.nokey hl
      len := by
        show (s.live.filter fun p => p.2 != id).length = _
        rw [rm.row, rm.col, rm.cols]
        have := length_remove_id h.sinv.pw hv
        have := h.len
        have := hn.len
        omega }

theorem Inv.exists_last (h : Inv m s) {r c id : Nat} (hc : cellT m.table r c = some id) :
    ∃ lr lc mid, Next m.cols lr lc m.row m.col ∧ cellT m.table lr lc = some mid := by
  have hpos := lt_hi.1 (h.cell_lt_hi hc)
  have hcur := h.cur
  have hc2 := h.c2
  have ⟨lr, lc, hn⟩ : ∃ lr lc, Next m.cols lr lc m.row m.col := by
    by_cases e : m.col = 0
    · exact ⟨m.row - 1, m.cols - 1, Or.inr (by omega)⟩
    · exact ⟨m.row, m.col - 1, Or.inl (by omega)⟩
  have : (cellT m.table lr lc).isSome := (h.dense lr lc).2 (by rw [hn.hi, if_pos rfl]; omega)
  obtain ⟨mid, hmid⟩ := Option.isSome_iff_exists.1 this
  exact ⟨lr, lc, mid, hn, hmid⟩

theorem Inv.count_above (h : Inv m s) {lr lc row : Nat} (hn : Next m.cols lr lc m.row m.col)
    (h1 : lr < row) : m.counts row = 0 := by
  rw [h.cnt, hn.hi, if_neg (by omega), hi_of_gt h1]; rfl

/-- gnet: "do nothing here", or the scan finds nothing -/
theorem Inv.delConn_last (h : Inv m s) {id r cl : Nat}
    (hr : (m.objs id).grow = r) (hcl : (m.objs id).gcol = cl) (hid : cellT m.table r cl = some id)
    (hn : Next m.cols r cl m.row m.col) :
    ∃ m', m.delConn id = some m' ∧ Removed m id r cl r cl id m' := by
  have hhi : hi m.row m.col m.cols r = cl + 1 := by rw [hn.hi, if_pos rfl]
  have hcnt : m.counts r - 1 = (cl : Int) := by rw [h.cnt, hhi]; omega
  have hback : m.row > r ∨ m.col > cl := by rcases hn with a | a <;> omega
  have hcell : ∀ r' c', cellT (delCore m (m.objs id).fd r cl).table r' c' =
      if r' = r ∧ c' = cl then none else cellT m.table r' c' :=
    -- a dropped row held only the removed connection:
    -- by `hz` and `hcnt`, `cl = 0` and the fill `hhi` is 1
    cellT_clearT fun hz c' hc => h.cell_none (by omega)
  refine ⟨delCore m (m.objs id).fd r cl, ?_, ?_⟩
  · simp only [delConn_eq m id (by rw [hr]; exact row_of_cell hid), hr, hcl]
    cases ht : (delCore m (m.objs id).fd r cl).table r with
    | none => exact if_neg fun a => Bool.false_ne_true a.2
    | some tr =>
      rw [if_pos ⟨h.dc, rfl⟩]
      apply compact_of_scan_none
      apply scanRows_none _ (Option.isSome_of_eq_some ht) _ (h.cell_bounds hid).1
      · intro row h1 _
        exact (upd_other (by omega)).trans (h.count_above hn h1)
      · intro c hc _
        rw [hcell, if_neg (by omega)]
        exact h.cell_none (by omega)
  · exact
      { rows := rfl
        cols := rfl
        dc := rfl
        row := if_pos hback
        col := if_pos hback
        cell := fun r' c' => by
          rw [hcell]
          split <;> rfl
        cnt := fun r' => by
          show Matrix.upd m.counts r (m.counts r - 1) r' = _
          rw [hcnt, upd_apply]
        fd := fun _ => rfl
        obj := fun _ _ => rfl
        moved := fun e => absurd rfl e
        f2g := fun fd' => by
          show Matrix.updI m.fd2gfd (m.objs id).fd none fd' = _
          rw [updI_apply]
          by_cases a : fd' = (m.objs id).fd
          · rw [if_pos a, if_pos a]
          · rw [if_neg a, if_neg a, if_neg a] }

/-- gnet: "locate the last *conn in table and move it to the deleted location" -/
theorem Inv.delConn_move (h : Inv m s) {id r cl lr lc mid : Nat} (hv : (s.fdOf id, id) ∈ s.live)
    (hr : (m.objs id).grow = r) (hcl : (m.objs id).gcol = cl) (hid : cellT m.table r cl = some id)
    (hlast : cellT m.table lr lc = some mid) (hn : Next m.cols lr lc m.row m.col)
    (hlt : r < lr ∨ (r = lr ∧ cl < lc)) :
    ∃ m', m.delConn id = some m' ∧ Removed m id r cl lr lc mid m' := by
  -- `-`: left in the context, the third conjunct (a disjunction) makes every `omega` below split
  obtain ⟨hlr, hlc, -⟩ := h.cell_bounds hlast
  have hhil : hi m.row m.col m.cols lr = lc + 1 := by rw [hn.hi, if_pos rfl]
  -- row `r` holds a second connection, so it is not dropped (for `r < lr` this needs `1 < cols`)
  have hhir : 2 ≤ hi m.row m.col m.cols r := by
    rcases hlt with a | a
    · rw [hn.hi, if_neg (by omega), hi_of_lt a]; exact h.c2
    · rw [a.1, hhil]; omega
  have hcntr : m.counts r - 1 ≠ 0 := by rw [h.cnt]; omega
  have hmidne : mid ≠ id := fun e => by have := h.cell_inj hlast hid e; omega
  let m1 := delCore m (m.objs id).fd r cl
  have hcell1 : ∀ r' c', cellT m1.table r' c' =
      if r' = r ∧ c' = cl then none else cellT m.table r' c' :=
    cellT_clearT fun hz => absurd hz hcntr
  have hal1 : (m1.table r).isSome := clearT_row_isSome hcntr r cl
  have hlast1 : cellT m1.table lr lc = some mid := by rw [hcell1, if_neg (by omega)]; exact hlast
  have hscan : Matrix.scanRows m1 r cl m1.rows = some (some (lr, lc)) := by
    apply scanRows_found m1 hlt hlc _ hlast1 _
      hlr fun row h1 _ => (upd_other (by omega)).trans (h.count_above hn h1)
    · show Matrix.upd m.counts r _ lr ≠ 0
      rw [upd_apply]
      split
      · exact hcntr
      · rw [h.cnt]; omega
    · intro c hc _
      rw [hcell1]
      split
      · rfl
      · exact h.cell_none (by omega)
  have hcntf : ∀ r', (moveInto m1 r cl lr lc mid).counts r' =
      if r' = lr then (lc : Int) else m.counts r' :=
    fun r' => (moveInto_counts r').trans (by rw [h.cnt lr, hhil]; simp)
  have hr256 : r % 256 = r := Nat.mod_eq_of_lt (Nat.lt_of_lt_of_le (h.cell_bounds hid).1 h.rle)
  have hc65536 : cl % 65536 = cl :=
    Nat.mod_eq_of_lt (Nat.lt_of_lt_of_le (h.cell_bounds hid).2.1 h.cle)
  have hfdne : (m.objs mid).fd ≠ (m.objs id).fd := by
    rw [h.objfd, h.objfd]
    exact fdOf_ne (h.obj hlast).2.2 (h.sinv.lookup_mem hv) hmidne
  refine ⟨moveInto m1 r cl lr lc mid, ?_, ?_⟩
  · simp only [delConn_eq m id (by rw [hr]; exact row_of_cell hid), hr, hcl]
    rw [if_pos ⟨h.dc, hal1⟩, compact_of_scan hscan hlast1 hal1]
  · exact
      { rows := rfl
        cols := rfl
        dc := rfl
        row := rfl
        col := rfl
        cnt := hcntf
        cell := fun r' c' => by
          show cellT (clearT (setT m1.table r cl (some mid))
            ((moveInto m1 r cl lr lc mid).counts lr) lr lc) r' c' = _
          rw [cellT_clearT, cellT_setT, hcell1]
          · by_cases e2 : r' = r ∧ c' = cl
            · rw [if_pos e2, if_pos e2]
            · rw [if_neg e2, if_neg e2, if_neg e2]
          · -- a dropped row `lr` held only the moved connection
            intro hz c' hc
            rw [hcntf, if_pos rfl] at hz
            have hne : lr ≠ r := by omega
            rw [cellT_setT, if_neg fun a => hne a.1, hcell1, if_neg fun a => hne a.1]
            exact h.cell_none (by omega)
        fd := fun i => by
          show (Matrix.upd m.objs mid _ i).fd = _
          by_cases e : i = mid
          · rw [e, upd_same]; rfl
          · rw [upd_other e]
        obj := fun i e => upd_other e
        moved := fun _ => by
          show (Matrix.upd m.objs mid _ mid).grow = r ∧ (Matrix.upd m.objs mid _ mid).gcol = cl
          rw [upd_same]
          exact ⟨hr256, hc65536⟩
        f2g := fun fd' => by
          show Matrix.updI (Matrix.updI m.fd2gfd (m.objs id).fd none) (m.objs mid).fd
            (some (r % 256, cl % 65536)) fd' = _
          rw [hr256, hc65536, updI_apply, updI_apply]
          by_cases a : fd' = (m.objs id).fd
          · subst a
            rw [if_neg hfdne.symm, if_pos rfl, if_pos rfl]
          · rw [if_neg a, if_neg a] }

theorem Inv.del (h : Inv m s) (id : Nat) (hv : (s.fdOf id, id) ∈ s.live) :
    ∃ m', m.delConn id = some m' ∧ Inv m' (s.step (.del id)) ∧
      m'.rows = m.rows ∧ m'.cols = m.cols := by
  obtain ⟨r, cl, _, hid⟩ := h.fwd (h.sinv.lookup_mem hv)
  obtain ⟨hr, hcl, _⟩ := h.obj hid
  obtain ⟨lr, lc, mid, hn, hlast⟩ := h.exists_last hid
  by_cases hL : r = lr ∧ cl = lc
  · obtain ⟨rfl, rfl⟩ := hL
    obtain ⟨m', he, rm⟩ := h.delConn_last hr hcl hid hn
    exact ⟨m', he, h.of_removed hv hid hid hn rm, rm.rows, rm.cols⟩
  · have := hn.le_last (h.cell_lt_hi hid)
    obtain ⟨m', he, rm⟩ := h.delConn_move hv hr hcl hid hlast hn (by omega)
    exact ⟨m', he, h.of_removed hv hid hlast hn rm, rm.rows, rm.cols⟩

end Gnet.Proofs.Registry
