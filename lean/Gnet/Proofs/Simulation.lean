/-
  The argument shared by the `run` theorems of the total buffer models (C10, C11): a simulation of
  single steps under an invariant gives the refinement of whole runs. The ring's `run` (C09) is
  partial and has an induction of its own.
-/
namespace Gnet.Proofs

/-- `run` and `Run` are given by their equations and rules: every model has a `run` and every
    specification a `Run` of its own. -/
theorem run_refines_of_step {S A Op O : Type} (step : S → Op → S × O)
    (run : S → List Op → S × List O) {Step : A → Op → A → O → Prop}
    {Run : A → List Op → List O → A → Prop} {Inv : S → Prop} {abs : S → A}
    (run_nil : ∀ s, run s [] = (s, []))
    (run_cons : ∀ s op ops, run s (op :: ops) =
      ((run (step s op).1 ops).1, (step s op).2 :: (run (step s op).1 ops).2))
    (nil : ∀ a, Run a [] [] a)
    (cons : ∀ a a' a'' op o ops os,
      Step a op a' o → Run a' ops os a'' → Run a (op :: ops) (o :: os) a'')
    (sim : ∀ s op, Inv s → Inv (step s op).1 ∧ Step (abs s) op (abs (step s op).1) (step s op).2)
    (ops : List Op) (s : S) (h : Inv s) :
    Inv (run s ops).1 ∧ Run (abs s) ops (run s ops).2 (abs (run s ops).1) := by
  induction ops generalizing s with
  | nil => rw [run_nil]; exact ⟨h, nil _⟩
  | cons op ops ih =>
    rw [run_cons]
    have ⟨h1, s1⟩ := sim s op h
    have ⟨h2, s2⟩ := ih _ h1
    exact ⟨h2, cons _ _ _ _ _ _ _ s1 s2⟩

end Gnet.Proofs
