/-
  What holds while the engine of Model/Engine.lean (Part 2) shuts down: `InvCtl` says what each statement of
  `engine.stop` that the stopper has passed (`past q pc`) has established, `InvConn` that the callbacks in the
  trace account for the connections the loops hold.
-/
import Gnet.Model.Engine
import Gnet.Proofs.ListFacts
namespace Gnet.Proofs.Engine
open Gnet.Engine

/-- statements of `engine.stop` still to run -/
def pcWork : StopPc → Nat
  | .waitCtx => 6 | .onShutdown => 5 | .postSentinels => 4 | .waitGroup => 3
  | .closeLoops => 2 | .setFlag => 1 | .returned => 0

/-- the stopper at `pc` has executed statement `q` (a `Bool`: for literal `q` and `pc` it evaluates) -/
def past (q pc : StopPc) : Bool := pcWork pc < pcWork q

theorem allExited_iff (s : State) :
    allExited s = true ↔ (∀ x ∈ s.loops, x.st = .exited) ∧ s.tickerAlive = false := by
  simp [allExited, List.all_eq_true]

structure InvCtl (s : State) : Prop where
  flag : s.inShutdown = decide (s.stopPc = .returned)
  shut : s.trace.count .shutdown = (past .onShutdown s.stopPc).toNat
  sent : past .postSentinels s.stopPc → ∀ x ∈ s.loops, x.sentinel = true
  allEx : past .waitGroup s.stopPc → (∀ x ∈ s.loops, x.st = .exited) ∧ s.tickerAlive = false
  exEmpty : ∀ x ∈ s.loops, x.st = .exited → x.conns = []

/-- The conclusion is the most general state a step of `step` on loop `l` produces; the arms of `step` match
it by structure eta. Where the step appends a callback, `htr` is `List.count_append` as it stands:
`count .shutdown [.open n]` evaluates to `0`. -/
theorem InvCtl.setLoop {s : State} (h : InvCtl s) {l : Nat} {x : Loop} (hx : s.loops[l]? = some x)
    (hne : x.st ≠ .exited) {st : LoopSt} {cs : List Nat} (he : st = .exited → cs = [])
    {tr : List Cb} (htr : tr.count .shutdown = s.trace.count .shutdown) {cc : Bool} {nc : Nat} :
    InvCtl { setLoop s l { x with st := st, conns := cs } with
      trace := tr, ctxCancelled := cc, nextConn := nc } :=
  have hm := List.mem_of_getElem? hx
  { flag := h.flag
    shut := htr ▸ h.shut
    sent := fun hq => forall_mem_set (h.sent hq) (h.sent hq x hm)
    allEx := fun hq => absurd ((h.allEx hq).1 x hm) hne
    exEmpty := forall_mem_set h.exEmpty he }

theorem openIn_concat (tr : List Cb) (e : Cb) : openIn (tr ++ [e]) =
    match e with | .open c => openIn tr ++ [c] | .close c => (openIn tr).erase c | _ => openIn tr := by
  unfold openIn; rw [List.foldl_append]; cases e <;> rfl

theorem perm_setLoop {s : State} {l : Nat} {x y : Loop} (hx : s.loops[l]? = some x) {o o' : List Nat}
    (hp : o.Perm (s.loops.flatMap (·.conns)))
    (h : ∀ rest, o.Perm (x.conns ++ rest) → o'.Perm (y.conns ++ rest)) :
    o'.Perm ((s.loops.set l y).flatMap (·.conns)) :=
  have ⟨rest, h1, h2⟩ := perm_set hx
  (h (rest.flatMap Loop.conns) (hp.trans (h1.flatMap_right _))).trans ((h2 y).flatMap_right Loop.conns).symm

/-- `n` is the next connection id to hand out -/
structure TraceOk (tr : List Cb) (n : Nat) : Prop where
  bal : ∀ c, tr.count (.open c) = tr.count (.close c) + (openIn tr).count c
  opened : ∀ c, tr.count (.open c) = (List.range n).count c

theorem TraceOk.open {tr n} (h : TraceOk tr n) : TraceOk (tr ++ [.open n]) (n + 1) := by
  refine ⟨fun c => ?_, fun c => ?_⟩
  · simp [openIn_concat, List.count_append, List.count_singleton, h.bal c, Nat.add_assoc]
  · simp [List.count_append, List.range_succ, List.count_singleton, h.opened c]

theorem TraceOk.close {tr n c} (h : TraceOk tr n) (hc : c ∈ openIn tr) : TraceOk (tr ++ [.close c]) n := by
  refine ⟨fun d => ?_, fun d => ?_⟩
  · have hb := h.bal d
    by_cases hd : c = d
    · have := List.count_pos_iff.2 (hd ▸ hc)
      simp [openIn_concat, List.count_append, hd]
      omega
    · simpa [openIn_concat, List.count_append, List.count_erase, hd] using hb
  · simpa [List.count_append] using h.opened d

theorem TraceOk.once {tr n} (h : TraceOk tr n) (c : Nat) : tr.count (.open c) ≤ 1 :=
  h.opened c ▸ List.nodup_iff_count.1 List.nodup_range c

structure InvConn (tr : List Cb) (n : Nat) (ls : List Loop) : Prop where
  ok : TraceOk tr n
  perm : (openIn tr).Perm (ls.flatMap (·.conns))

theorem InvConn.other {tr n ls} (h : InvConn tr n ls) (e : Cb) (ho : ∀ c, e ≠ .open c)
    (hc : ∀ c, e ≠ .close c) : InvConn (tr ++ [e]) n ls := by
  have hz (a) (ha : e ≠ a) : (tr ++ [e]).count a = tr.count a := by simp [List.count_append, ha]
  have : openIn (tr ++ [e]) = openIn tr := by
    rw [openIn_concat]
    cases e with
    | «open» c => exact absurd rfl (ho c)
    | close c => exact absurd rfl (hc c)
    | _ => rfl
  refine ⟨⟨fun c => ?_, fun c => ?_⟩, this ▸ h.perm⟩ <;> simp only [hz _ (ho c)]
  · rw [hz _ (hc c), this]; exact h.ok.bal c
  · exact h.ok.opened c

structure Inv (s : State) : Prop where
  ctl : InvCtl s
  conn : InvConn s.trace s.nextConn s.loops

theorem Inv.close {s : State} (h : Inv s) {l : Nat} {x : Loop} {c : Nat} (hx : s.loops[l]? = some x)
    (hne : x.st ≠ .exited) (hc : c ∈ x.conns) :
    Inv { setLoop s l { x with conns := x.conns.erase c } with trace := s.trace ++ [.close c] } where
  ctl := h.ctl.setLoop hx hne (absurd · hne) List.count_append
  conn := by
    refine ⟨h.conn.ok.close (h.conn.perm.mem_iff.2 (List.mem_flatMap.2 ⟨_, List.mem_of_getElem? hx, hc⟩)),
      perm_setLoop hx h.conn.perm fun rest hp => ?_⟩
    simp only [openIn_concat]
    exact List.erase_append_left _ hc ▸ hp.erase _

theorem Inv.move {s : State} (h : Inv s) {l : Nat} {x : Loop} (hx : s.loops[l]? = some x)
    (hne : x.st ≠ .exited) {st : LoopSt} (he : st = .exited → x.conns = []) {cc : Bool} :
    Inv { setLoop s l { x with st := st } with ctxCancelled := cc } :=
  ⟨h.ctl.setLoop hx hne he rfl, h.conn.ok, perm_setLoop hx h.conn.perm fun _ hp => hp⟩

/-- the `match` is the one `step` makes, so that the lemma applies to `step s a` by unification -/
theorem Inv.onLoop {s : State} {l : Nat} {f : Loop → State} (h : Inv s)
    (hf : ∀ x, s.loops[l]? = some x → Inv (f x)) :
    Inv (match s.loops[l]? with | some x => f x | none => s) := by
  split
  · exact hf _ ‹_›
  · exact h

/-- the old pc becomes a literal, as the new one is: a field carries over (up to evaluation of `past`), holds
vacuously (`nofun`), or is what the statement has just established -/
theorem Inv.stopper {s : State} (h : Inv s) : Inv (step s .stopper) := by
  have ⟨⟨flag, shut, sent, allEx, exEmpty⟩, conn⟩ := h
  simp only [step]
  cases hpc : s.stopPc <;> rw [hpc] at flag shut sent allEx
  case waitCtx => exact of_ite h fun _ => ⟨⟨flag, shut, nofun, nofun, exEmpty⟩, conn⟩
  case onShutdown =>
    exact ⟨⟨flag, List.count_append.trans (congrArg (· + 1) shut), nofun, nofun, exEmpty⟩,
      conn.other .shutdown nofun nofun⟩
  case postSentinels =>
    exact ⟨⟨flag, shut, fun _ => List.forall_mem_map.2 fun _ _ => rfl, nofun, List.forall_mem_map.2 exEmpty⟩,
      conn.ok, by simpa [List.flatMap_map] using conn.perm⟩
  case waitGroup =>
    exact of_ite h fun he => ⟨⟨flag, shut, sent, fun _ => (allExited_iff s).1 he, exEmpty⟩, conn⟩
  case closeLoops => exact ⟨⟨flag, shut, sent, allEx, exEmpty⟩, conn⟩
  case setFlag => exact ⟨⟨rfl, shut, sent, allEx, exEmpty⟩, conn⟩
  case returned => exact h

theorem inv_step {s : State} (h : Inv s) : ∀ a, Inv (step s a)
  | .accept l => h.onLoop fun x hx => of_ite h fun hr => by
    refine ⟨h.ctl.setLoop hx (hr ▸ nofun) (hr ▸ nofun) List.count_append, h.conn.ok.open,
      perm_setLoop hx h.conn.perm fun rest hp => ?_⟩
    rw [openIn_concat]
    exact (hp.append_right _).trans (by simp [List.perm_append_left_iff])
  | .traffic l c => h.onLoop fun _ _ => of_ite h fun _ =>
    ⟨{ h.ctl with shut := List.count_append.trans h.ctl.shut }, h.conn.other (.traffic c) nofun nofun⟩
  | .peerClose l c => h.onLoop fun _ hx => of_ite h fun hg => h.close hx (hg.1 ▸ nofun) hg.2
  | .requestStop => ⟨{ h.ctl with }, h.conn⟩
  | .actionShutdown l => h.onLoop fun _ hx => of_ite h fun hr => h.move hx (hr ▸ nofun) (by nofun)
  | .runSentinel l => h.onLoop fun _ hx => of_ite h fun hg => h.move hx (hg.1 ▸ nofun) (by nofun)
  | .closeOne l => h.onLoop fun x hx => of_ite h fun hcl => by
    split
    next c rest hcs =>
      obtain rfl : rest = x.conns.erase c := hcs ▸ (List.erase_cons_head ..).symm
      exact h.close hx (hcl ▸ nofun) (hcs ▸ .head _)
    · exact h
  | .loopExit l => h.onLoop fun _ hx => of_ite h fun hg => h.move hx (hg.1 ▸ nofun) fun _ => hg.2
  | .tick => of_ite h fun _ =>
    ⟨{ h.ctl with shut := List.count_append.trans h.ctl.shut }, h.conn.other .tick nofun nofun⟩
  | .tickerExit => of_ite h fun _ =>
    ⟨{ h.ctl with allEx := fun hq => ⟨(h.ctl.allEx hq).1, rfl⟩ }, h.conn⟩
  | .stopper => h.stopper

theorem inv_run {s : State} (h : Inv s) (steps : List Step) : Inv (run s steps) := by
  induction steps generalizing s with
  | nil => exact h
  | cons a rest ih => exact ih (inv_step h a)

theorem inv_init (n : Nat) (t : Bool) : Inv (init n t) where
  ctl := { flag := rfl, shut := rfl, sent := nofun, allEx := nofun
           exEmpty := fun _ hx _ => List.eq_of_mem_replicate hx ▸ rfl }
  conn := { ok := ⟨fun _ => rfl, fun _ => rfl⟩
            perm := by simp [init, openIn] }

theorem inv_reachable {s : State} (h : Reachable s) : Inv s := by
  obtain ⟨n, t, steps, rfl⟩ := h
  exact inv_run (inv_init n t) steps

end Gnet.Proofs.Engine
