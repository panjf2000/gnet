/-
  A queue that is not empty is watched: the loop or some producer is still going to look at it, and stops
  watching only by finding it empty. A producer that has enqueued watches until it has loaded `exited`; if
  it loads `false` the loop has not begun its drain and watches still.
-/
import Gnet.Model.Drain
import Gnet.Proofs.ListFacts
namespace Gnet.Proofs.Drain
open Gnet.Drain

def Watched (s : State) : Prop := s.loop ≠ .done ∨ ∃ x ∈ s.prods, x ≠ .idle

structure Inv (s : State) : Prop where
  perm : (s.ran ++ s.aborted ++ s.queue).Perm (List.range s.next)
  ord : (s.ran ++ s.queue).Pairwise (· < ·)
  early : s.exited = true ∨ s.loop = .polling ∨ s.loop = .leaving
  watch : s.queue = [] ∨ Watched s

theorem inv_init (n : Nat) : Inv (init n) where
  perm := .refl _
  ord := .nil
  early := .inr (.inl rfl)
  watch := .inl rfl

/-- the queue was not empty, so whoever watched it still does -/
theorem inv_take {s : State} {t : Nat} {q ran' ab' : List Nat} (h : Inv s) (hq : s.queue = t :: q)
    (hp : (ran' ++ ab').Perm (t :: (s.ran ++ s.aborted))) (ho : (ran' ++ q).Sublist (s.ran ++ t :: q)) :
    Inv { s with queue := q, ran := ran', aborted := ab' } where
  perm := ((hp.append_right q).trans List.perm_middle.symm).trans (hq ▸ h.perm)
  ord := (hq ▸ h.ord).sublist ho
  early := h.early
  watch := .inr (h.watch.resolve_left (hq ▸ List.cons_ne_nil t q))

theorem Inv.lt_next {s : State} (h : Inv s) {a : Nat} (ha : a ∈ s.ran ++ s.queue) : a < s.next := by
  have ha : a ∈ s.ran ++ s.aborted ++ s.queue := by
    simp only [List.mem_append] at ha ⊢; exact ha.elim (.inl ∘ .inl) .inr
  exact List.mem_range.1 (h.perm.subset ha)

theorem inv_step {s : State} (h : Inv s) (a : Step) : Inv (step s a) := by
  cases a with
  | loopRun =>
    refine of_ite h fun hl => ?_
    split
    next t q hq => exact inv_take h hq perm_snoc_append (by simp)
    next => exact h
  | loopLeave => exact of_ite h fun hl => { h with early := .inr (.inr rfl), watch := .inr (.inl nofun) }
  | loopSetExited => exact of_ite h fun hl => { h with early := .inl rfl, watch := .inr (.inl nofun) }
  | loopDrain =>
    refine of_ite h fun hl => ?_
    split
    next t q hq => exact inv_take h hq perm_append_snoc (by simp)
    next hq =>
      exact { h with
        early := .inl (h.early.resolve_right (hl ▸ nofun))
        watch := .inl hq }
  | enqueue p =>
    refine of_ite h fun hp => ?_
    exact {
      perm := by simpa [setProd, List.append_assoc, List.range_succ] using h.perm.append_right [s.next]
      -- the new task has the largest number so far
      ord := List.append_assoc .. ▸ List.pairwise_append.2
        ⟨h.ord, List.pairwise_singleton .., fun a ha b hb => List.mem_singleton.1 hb ▸ h.lt_next ha⟩
      early := h.early
      watch := .inr (.inr (exists_mem_set_self hp nofun)) }
  | load p =>
    refine of_ite h fun hp => ?_
    simp only [setProd]; split
    next => exact { h with watch := .inr (.inr (exists_mem_set_self hp nofun)) }
    next hex =>
      exact { h with watch := .inr (.inl ((h.early.resolve_left hex).elim (· ▸ nofun) (· ▸ nofun))) }
  | prodDrain p =>
    refine of_ite h fun hp => ?_
    split
    next t q hq => exact inv_take h hq perm_append_snoc (by simp)
    next hq => exact { h with watch := .inl hq }

theorem inv_run {s : State} (h : Inv s) (steps : List Step) : Inv (run s steps) := by
  induction steps generalizing s with
  | nil => exact h
  | cons a rest ih => exact ih (inv_step h a)

theorem inv_reachable {s : State} (h : Reachable s) : Inv s := by
  obtain ⟨n, steps, rfl⟩ := h
  exact inv_run (inv_init n) steps

theorem nothing_stranded (s : State) (h : Reachable s) (hq : Quiescent s = true) : s.queue = [] := by
  obtain ⟨hl, hp⟩ : s.loop = .done ∧ ∀ x ∈ s.prods, x = .idle := by simpa [Quiescent] using hq
  exact (inv_reachable h).watch.resolve_right fun hw => hw.elim (· hl) fun ⟨x, hx, hw⟩ => hw (hp x hx)

theorem ran_in_order (s : State) (h : Reachable s) : s.ran.Pairwise (· < ·) :=
  (List.pairwise_append.1 (inv_reachable h).ord).1

end Gnet.Proofs.Drain
