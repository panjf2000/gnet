/-
  C14: both connection registries refine the finite-map specification.
-/
import Gnet.Proofs.RegistryMap
import Gnet.Proofs.RegistryIter
namespace Gnet.Proofs.Registry
open Gnet

theorem addConn_dims (m : Matrix) (id el : Nat) :
    (m.addConn id el).rows = m.rows ∧ (m.addConn id el).cols = m.cols := by
  unfold Matrix.addConn
  dsimp only
  split
  · exact ⟨rfl, rfl⟩
  · split <;> exact ⟨rfl, rfl⟩

theorem Inv.runOp {m : Matrix} {s : RegSpec} (h : Inv m s) (op : RegOp) (hv : s.valid (m.rows * m.cols) op) :
    ∃ m' o, m.runOp op = some (m', o) ∧ s.agrees op o ∧ Inv m' (s.step op) ∧
      m'.rows = m.rows ∧ m'.cols = m.cols := by
  cases op with
  | conn id fd => exact ⟨_, _, rfl, trivial, h.conn id fd hv, rfl, rfl⟩
  | add id el =>
    obtain ⟨a, b⟩ := addConn_dims m id el
    exact ⟨_, _, rfl, trivial, h.add id el hv, a, b⟩
  | del id =>
    obtain ⟨m', e, hinv, a, b⟩ := h.del id hv
    refine ⟨m', .unit, ?_, trivial, hinv, a, b⟩
    show (m.delConn id).map _ = _
    rw [e]; rfl
  | get fd => exact ⟨m, _, rfl, h.get fd, h, rfl, rfl⟩
  | count => exact ⟨m, _, rfl, h.count, h, rfl, rfl⟩
  | iter d =>
    cases d with
    | false =>
      obtain ⟨ids, e, hp⟩ := h.iter_false
      refine ⟨m, .visited ids, ?_, hp, h, rfl, rfl⟩
      show (m.iterate false 0).map _ = _
      rw [e]; rfl
    | true =>
      obtain ⟨m', ids, e, hp, hinv, a, b⟩ := h.iter_true
      refine ⟨m', .visited ids, ?_, hp, hinv, a, b⟩
      show (m.iterate true 0).map _ = _
      rw [e]; rfl

theorem matrix_refines : ∀ (ops : List RegOp) (m : Matrix) (s : RegSpec), Inv m s →
    s.validRun (m.rows * m.cols) ops →
    ∃ m' outs, m.run ops = some (m', outs) ∧ s.agreesRun ops outs ∧ Inv m' (ops.foldl RegSpec.step s)
  | [], m, _, h, _ => ⟨m, [], rfl, trivial, h⟩
  | op :: ops, m, s, h, hv => by
    obtain ⟨m1, o, e1, ha, h1, a, b⟩ := h.runOp op hv.1
    have hv2 : (s.step op).validRun (m1.rows * m1.cols) ops := by rw [a, b]; exact hv.2
    obtain ⟨m2, outs, e2, ha2, h2⟩ := matrix_refines ops m1 (s.step op) h1 hv2
    refine ⟨m2, o :: outs, ?_, ⟨ha, ha2⟩, h2⟩
    simp only [Matrix.run, e1, e2]

theorem matrix_run_refines (rows cols : Nat) (hc : 1 < cols) (hr : rows ≤ 256) (hcc : cols ≤ 65536)
    (ops : List RegOp) (hv : RegSpec.init.validRun (rows * cols) ops) :
    ∃ m outs, (Matrix.init rows cols).run ops = some (m, outs) ∧ RegSpec.init.agreesRun ops outs :=
  let ⟨m, outs, e, ha, _⟩ :=
    matrix_refines ops (Matrix.init rows cols) RegSpec.init (Inv.init rows cols hc hr hcc) hv
  ⟨m, outs, e, ha⟩

theorem map_run_refines (ops : List RegOp) (cap : Nat) (hv : RegSpec.init.validRun cap ops) :
    RegSpec.init.agreesRun ops (RegMap.init.run ops).2 :=
  (map_refines cap ops _ _ MInv.init hv).1

theorem spec_keys_distinct (cap : Nat) (ops : List RegOp) (hv : RegSpec.init.validRun cap ops) :
    ((ops.foldl RegSpec.step RegSpec.init).live.map (·.1)).Nodup :=
  (SInv.foldl ops (.nil _) hv).keys_nodup

end Gnet.Proofs.Registry
