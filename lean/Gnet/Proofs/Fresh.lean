import Gnet.Spec.Fifo
namespace Gnet.Fifo
variable {α : Type}

@[simp] theorem fresh_length (gen : Nat → α) (pos m : Nat) : (fresh gen pos m).length = m := by
  simp [fresh]

@[simp] theorem fresh_zero (gen : Nat → α) (pos : Nat) : fresh gen pos 0 = [] := rfl

theorem fresh_add (gen : Nat → α) (pos a b : Nat) :
    fresh gen pos (a + b) = fresh gen pos a ++ fresh gen (pos + a) b := by
  simp [fresh, List.range_add, Nat.add_assoc]

end Gnet.Fifo
