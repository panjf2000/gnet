/-
  The lifecycle / descriptor invariant `J` through all work about one connection. While `close c` runs the
  OnClose callback the entry of `c` is outside the invariant (opened, not registered, its word already ends
  in "close"); what holds then is `PA`: the entry keeps its lifecycle fields, because every nested `close`
  returns at once. The frame property (`frame_gen`) takes its `close` from the same walk.
-/
import Gnet.Proofs.ReactorFoot
namespace Gnet.Proofs.ReactorL
open Gnet.Reactor

def FdL (l : List (String × Bool)) : Prop := ∀ e ∈ l, e.2 = true

theorem FdL_append {l : List (String × Bool)} {c : String} {b : Bool} (h : FdL l) (hb : b = true) :
    FdL (l ++ [(c, b)]) :=
  List.forall_mem_append.2 ⟨h, List.forall_mem_singleton.2 hb⟩

/-- the per-connection part of `InvLife` -/
def LifeOK (x : Conn) : Prop :=
  WordOK x.word ∧
    (x.opened = true → ∃ k, x.word = "open" :: List.replicate k "traffic") ∧
    (x.registered = true → x.opened = true) ∧
    (x.fdOpen = false → x.opened = false ∧ x.registered = false)

/-- `LifeOK` speaks of the lifecycle fields only -/
def LifeOKc (k : Core) : Prop :=
  WordOK k.word ∧
    (k.opened = true → ∃ j, k.word = "open" :: List.replicate j "traffic") ∧
    (k.registered = true → k.opened = true) ∧
    (k.fdOpen = false → k.opened = false ∧ k.registered = false)

theorem LifeOK_iff (x : Conn) : LifeOK x ↔ LifeOKc (core x) := Iff.rfl

theorem LifeOK_core {x y : Conn} (h : core y = core x) (hx : LifeOK x) : LifeOK y :=
  (LifeOK_iff y).2 (h ▸ hx)

theorem LifeOK.fdOpen {x : Conn} (h : LifeOK x) (ho : x.opened = true) : x.fdOpen = true := by
  cases hf : x.fdOpen with
  | true => rfl
  | false => rw [(h.2.2.2 hf).1] at ho; cases ho

theorem LifeOKc_new (f e : Bool) : LifeOKc ⟨false, false, f, [], e⟩ :=
  ⟨Or.inl rfl, nofun, nofun, fun _ => ⟨rfl, rfl⟩⟩

theorem LifeOKc_open (r e : Bool) : LifeOKc ⟨true, r, true, ["open"], e⟩ :=
  ⟨Or.inr (Or.inl ⟨0, rfl⟩), fun _ => ⟨0, rfl⟩, fun _ => rfl, nofun⟩

theorem LifeOKc_traffic {k : Core} (h : LifeOKc k) (ho : k.opened = true) : LifeOKc k.traffic := by
  obtain ⟨j, hj⟩ := h.2.1 ho
  have hw : k.word ++ ["traffic"] = "open" :: List.replicate (j + 1) "traffic" := by
    rw [hj, List.cons_append, ← List.replicate_succ']
  exact ⟨Or.inr (Or.inl ⟨j + 1, hw⟩), fun _ => ⟨j + 1, hw⟩, h.2.2.1, h.2.2.2⟩

theorem LifeOKc_closed {w : List String} (e : Bool) (hw : ∃ j, w = "open" :: List.replicate j "traffic") :
    LifeOKc ⟨false, false, false, w ++ ["close"], e⟩ := by
  obtain ⟨j, hj⟩ := hw
  exact ⟨Or.inr (Or.inr ⟨j, by rw [hj]⟩), nofun, nofun, fun _ => ⟨rfl, rfl⟩⟩

/-- `InvLife` as `lookupL` sees it: about the first entry of every name. With unique names (`ND`) that is
    every entry (`mem_lookup`). -/
def InvLc (cs : List (String × Conn)) : Prop := ∀ c x, lookupL cs c = some x → LifeOK x

def InvO (c : String) (cs : List (String × Conn)) : Prop :=
  ∀ c' x, c' ≠ c → lookupL cs c' = some x → LifeOK x

theorem InvO_of_InvLc {c cs} (h : InvLc cs) : InvO c cs := fun c' x _ hx => h c' x hx

theorem InvO_upd {c cs y} (h : InvO c cs) : InvO c (updL cs c y) := by
  intro c' x hc hx
  rw [lookupL_updL_other _ _ _ _ hc] at hx
  exact h c' x hc hx

theorem InvLc_of_InvO {c cs} (h : InvO c cs) (hc : ∀ x, lookupL cs c = some x → LifeOK x) : InvLc cs := by
  intro c' x hx
  by_cases e : c' = c
  · subst e; exact hc x hx
  · exact h c' x e hx

theorem InvLc_upd {c cs y} (h : InvO c cs) (hy : LifeOK y) : InvLc (updL cs c y) := by
  refine InvLc_of_InvO (InvO_upd h) fun x hx => ?_
  obtain ⟨_, _, rfl⟩ := Option.map_eq_some_iff.1 (lookupL_updL_same .. ▸ hx)
  exact hy

/-- `G` switches the descriptor discipline on: C04 is stated without `InvFd` (`G := False`), C07 with it, and
    `InvFd` needs `InvLife` (an opened connection has its descriptor). -/
structure J (G : Prop) (cs : List (String × Conn)) (sl : List (String × Bool)) : Prop where
  inv : InvLc cs
  fd : G → FdL sl

structure PJ (G : Prop) (c : String) (cs : List (String × Conn)) (sl : List (String × Bool)) : Prop where
  j : J G cs sl
  op : ∃ x, lookupL cs c = some x ∧ x.opened = true

theorem PJ_g3 {G c cs sl x} {b : Bool} (h : J G cs sl) (hb : (b && x.opened) = true)
    (hx : lookupL cs c = some x) : PJ G c cs sl :=
  ⟨h, x, hx, by simp at hb; exact hb.2⟩

/-- the entry of `c` has the lifecycle fields `k`; `P`, which rewriting the entry of `c` keeps, travels with
    it, so that `close` is walked once for the lifecycle and for the frame property -/
structure PA (P : Conns → Prop) (G : Prop) (c : String) (k : Core) (cs : Conns) (sl : SysLog) : Prop where
  ent : ∃ x, lookupL cs c = some x ∧ core x = k
  fd : G → FdL sl
  frame : P cs
  keep : ∀ {l y}, P l → P (updL l c y)

theorem PA.core_eq {P G c k cs sl x} (h : PA P G c k cs sl) (hx : lookupL cs c = some x) : core x = k := by
  obtain ⟨x0, h0, hk⟩ := h.ent
  rw [hx] at h0; cases h0; exact hk

theorem PA.of {P G c cs sl x} (hx : lookupL cs c = some x) (hl : G → FdL sl) (hp : P cs)
    (hP : ∀ {l y}, P l → P (updL l c y)) : PA P G c (core x) cs sl :=
  ⟨⟨x, hx, rfl⟩, hl, hp, hP⟩

theorem PA.map {P G c k cs sl x y} (h : PA P G c k cs sl) (f : Core → Core)
    (hx : lookupL cs c = some x) (hy : core y = f (core x)) : PA P G c (f k) (updL cs c y) sl :=
  ⟨⟨y, lookupL_updL_hit hx, by rw [hy, h.core_eq hx]⟩, h.fd, h.keep h.frame, h.keep⟩

theorem PA.log {P G c k cs sl x} (hx : lookupL cs c = some x) (hf : G → k.fdOpen = true)
    (h : PA P G c k cs sl) : PA P G c k cs (sl ++ [(c, x.fdOpen)]) :=
  ⟨h.ent, fun g => FdL_append (h.fd g) ((congrArg Core.fdOpen (h.core_eq hx)).trans (hf g)), h.frame, h.keep⟩

theorem J_of_PA {P G c k cs sl} (hO : InvO c cs) (hA : PA P G c k cs sl) (hk : LifeOKc k) : J G cs sl :=
  ⟨InvLc_of_InvO hO fun x hx => (LifeOK_iff x).2 (hA.core_eq hx ▸ hk), hA.fd⟩

theorem PA_foot {P : Conns → Prop} {c : String} (G : Prop) (k : Core)
    (hf : G → k.opened = true → k.fdOpen = true) :
    Foot c false (PA P G c k) (fun cs sl => k.opened = true ∧ PA P G c k cs sl) where
  upd hx hy h := h.map id hx hy
  updO hx hy h := ⟨h.1, h.2.map id hx hy⟩
  logO hx h := ⟨h.1, h.2.log hx fun g => hf g h.1⟩
  weaken h := h.2
  guard ho hx h := ⟨(congrArg Core.opened (h.core_eq hx)).symm.trans ho, h⟩
  logfd hb hx h := h.log hx fun _ => (congrArg Core.fdOpen (h.core_eq hx)).symm.trans hb
  traffic ht := nomatch ht

theorem unreg_stable {P : Conns → Prop} (G : Prop) (c : String) (k : Core) (hk : k.registered = false)
    (hf : G → k.opened = true → k.fdOpen = true) :
    ∀ fuel w, target w = some c → noTraffic w = true → ∀ s,
      Pre (PA P G c k) (fun cs sl => k.opened = true ∧ PA P G c k cs sl) w s.conns s.sysLog →
      wp (exec fuel w) (fun _ s' => PA P G c k s'.conns s'.sysLog) s := by
  intro fuel w hw hS s
  refine foot (PA_foot G k hf) (fun fuel en s hs => ?_) fuel hw (by rw [hS]; rfl)
  -- a nested `close` finds `c` unregistered and returns
  obtain _ | fuel := fuel
  · exact exec_zero _ _ _
  refine wp_get_bind ?_
  refine wp_enter_bind fun _ _ _ => wp_guard fun _ => ?_
  refine wp_getConn_bind fun x hx => wp_if (fun _ => wp_ret hs) fun hb => ?_
  have : x.registered = false := (congrArg Core.registered (hs.core_eq hx)).trans hk
  simp [this] at hb

def closed (x : Conn) (en : Bool) : Core :=
  if x.opened = true ∧ x.registered = true then ⟨false, false, false, x.word ++ ["close"], en⟩ else core x

theorem close_spec {P : Conns → Prop} {c : String} (hP : ∀ {l y}, P l → P (updL l c y)) (G : Prop) (en : Bool)
    (fuel : Nat) (s : RState) (hl : G → FdL s.sysLog)
    (hf : G → ∀ x, lookupL s.conns c = some x → x.opened = true → x.fdOpen = true) (hp : P s.conns) :
    wp (exec fuel (.close c en))
      (fun _ s' => ∃ x, lookupL s.conns c = some x ∧ PA P G c (closed x en) s'.conns s'.sysLog) s := by
  cases fuel with
  | zero => exact exec_zero _ _ _
  | succ fuel =>
    refine wp_get_bind ?_
    refine wp_enter_bind fun _ _ _ => wp_guard fun _ => ?_
    refine wp_getConn_bind fun x hx => wp_if (fun hb => wp_ret ⟨x, hx, ?_⟩) fun hb => ?_
    · rw [closed, if_neg fun h => by simp [h.1, h.2] at hb]
      exact .of hx hl hp hP
    obtain ⟨ho, hr⟩ : x.opened = true ∧ x.registered = true := by simpa using hb
    have hfo : G → x.fdOpen = true := fun g => hf g x hx ho
    have hc : closed x en = ⟨false, false, false, x.word ++ ["close"], en⟩ := if_pos ⟨ho, hr⟩
    refine wp_modConn_bind fun x1 hx1 => ?_
    refine wp_pop_bind fun t _ _ _ => ?_
    msplit
    refine wp_guard fun _ => wp_guard fun _ => ?_
    refine wp_modConn_bind fun x2 hx2 => ?_
    -- inside OnClose and the flush
    have h5 := unreg_stable (P := P) G c ⟨x.opened, false, x.fdOpen, x.word ++ ["close"], en⟩ rfl
      (fun g _ => hfo g) fuel
    refine wp_seq (h5 _ rfl rfl _
      (((PA.of hx hl hp hP).map (fun k => { k with registered := false }) hx1 (by rfl)).map
        (fun k => { k with word := k.word ++ ["close"], closeErrNil := en }) hx2 (by rfl))) fun r s hA => ?_
    refine wp_seq (h5 (.closeFlush c) rfl rfl _ ⟨ho, hA⟩) fun _ s hA => ?_
    refine wp_modConn_bind fun x3 hx3 => ?_
    refine wp_noteSys_bind fun x4 hx4 => ?_
    replace hA : PA P G c ⟨false, false, x.fdOpen, x.word ++ ["close"], en⟩ _ _ :=
      (hA.map (fun k => { k with opened := false }) hx3 (by rfl)).log hx4 hfo
    refine wp_seq
      (R := fun _ s => PA P G c ⟨false, false, x.fdOpen, x.word ++ ["close"], en⟩ s.conns s.sysLog) ?_
      fun e0 s hA => ?_
    · refine wp_pop_bind fun t _ _ _ => ?_
      msplit
      exact wp_guard fun _ => wp_ret hA
    refine wp_noteSys_bind fun x5 hx5 => ?_
    replace hA := hA.log hx5 hfo
    refine wp_seq
      (R := fun _ s => PA P G c ⟨false, false, x.fdOpen, x.word ++ ["close"], en⟩ s.conns s.sysLog) ?_
      fun e1 s hA => ?_
    · refine wp_pop_bind fun t _ _ _ => ?_
      msplit
      exact wp_guard fun _ => wp_ret hA
    refine wp_modConn_bind fun x6 hx6 => ?_
    replace hA : PA P G c (closed x en) (updL s.conns c { x6 with fdOpen := false }) s.sysLog :=
      hc ▸ hA.map (fun k => { k with fdOpen := false }) hx6 (by rfl)
    refine wp_if (fun _ => wp_ret ⟨x, hx, hA⟩) fun _ => ?_
    -- closed; `handleAction` may call `close` again
    rw [hc] at hA
    exact wp_mono
      (unreg_stable G c ⟨false, false, false, x.word ++ ["close"], en⟩ rfl (fun _ h => nomatch h) fuel _
        rfl rfl _ hA)
      fun _ _ h => ⟨x, hx, hc ▸ h⟩

section frame
variable {c : String} {P : Conns → Prop} (hP : ∀ {l y}, P l → P (updL l c y))
include hP

theorem frame_foot : Foot c true (fun cs _ => P cs) (fun cs _ => P cs) where
  upd _ _ h := hP h
  updO _ _ h := hP h
  logO _ h := h
  weaken h := h
  guard _ _ h := h
  logfd _ _ h := h
  traffic _ _ _ h := hP h

/-- the works that `foot` covers -/
theorem frame_kept (fuel : Nat) {w : Work} (hw : target w = some c) {s : RState}
    (hs : Pre (fun cs _ => P cs) (fun cs _ => P cs) w s.conns s.sysLog) :
    wp (exec fuel w) (fun _ s' => P s'.conns) s :=
  foot (frame_foot @hP)
    (fun fuel en s hs =>
      wp_mono (close_spec @hP False en fuel s nofun nofun hs) fun _ _ ⟨_, _, hA⟩ => hA.frame)
    fuel hw (Bool.or_true _) hs

theorem frame_open (fuel : Nat) (s : RState) (hs : P s.conns) :
    wp (exec fuel (.open c)) (fun _ s' => P s'.conns) s := by
  cases fuel with
  | zero => exact exec_zero _ _ _
  | succ fuel =>
    refine wp_get_bind ?_
    refine wp_enter_bind fun _ _ _ => ?_
    refine wp_modConn_bind fun _ _ => ?_
    refine wp_pop_bind fun t _ _ _ => ?_
    -- a join point, as in `foot`
    extract_lets jp
    msplit
    refine wp_guard fun _ => ?_
    refine wp_modConn_bind fun _ _ => ?_
    exact frame_kept @hP fuel rfl (hP (hP hs))

theorem frame_register0 (fuel : Nat) (s : RState) (hs : P s.conns) :
    wp (exec fuel (.register0 c)) (fun _ s' => P s'.conns) s := by
  cases fuel with
  | zero => exact exec_zero _ _ _
  | succ fuel =>
    refine wp_get_bind ?_
    refine wp_enter_bind fun _ _ _ => ?_
    refine wp_noteSys_bind fun _ _ => ?_
    refine wp_pop_bind fun t _ _ _ => ?_
    msplit
    refine wp_guard fun _ => wp_if (fun _ => ?_) fun _ => ?_
    · refine wp_noteSys_bind fun _ _ => ?_
      refine wp_pop_bind fun t _ _ _ => ?_
      msplit
      refine wp_guard fun _ => ?_
      exact wp_modConn_bind fun _ _ => wp_ret (hP hs)
    · exact wp_modConn_bind fun _ _ => frame_open @hP fuel _ (hP hs)

end frame

theorem frame_gen (c : String) (P : Conns → Prop) (hP : ∀ {l y}, P l → P (updL l c y)) :
    ∀ fuel w, target w = some c → ∀ s, P s.conns → wp (exec fuel w) (fun _ s' => P s'.conns) s := by
  intro fuel w hw s hs
  cases w with
  | register0 => cases hw; exact frame_register0 @hP fuel s hs
  | «open» => cases hw; exact frame_open @hP fuel s hs
  | _ => exact frame_kept @hP fuel hw hs

theorem PJ.opened {G c cs sl x} (h : PJ G c cs sl) (hx : lookupL cs c = some x) : x.opened = true := by
  obtain ⟨x0, h0, ho⟩ := h.op
  rw [hx] at h0; cases h0; exact ho

theorem J_upd {G c cs sl x y} (hx : lookupL cs c = some x) (hy : LifeOK x → LifeOK y) (h : J G cs sl) :
    J G (updL cs c y) sl :=
  ⟨InvLc_upd (InvO_of_InvLc h.inv) (hy (h.inv c x hx)), h.fd⟩

theorem J_foot (G : Prop) (c : String) : Foot c true (J G) (PJ G c) where
  upd hx hy h := J_upd hx (LifeOK_core hy) h
  updO hx hy h :=
    ⟨J_upd hx (LifeOK_core hy) h.j, _, lookupL_updL_hit hx, (congrArg Core.opened hy).trans (h.opened hx)⟩
  logO hx h := ⟨⟨h.j.inv, fun g => FdL_append (h.j.fd g) ((h.j.inv _ _ hx).fdOpen (h.opened hx))⟩, h.op⟩
  weaken h := h.j
  guard ho hx h := ⟨h, _, hx, ho⟩
  logfd hb _ h := ⟨h.inv, fun g => FdL_append (h.fd g) hb⟩
  traffic _ hx hy h := J_upd hx (fun hl => (LifeOK_iff _).2 (hy ▸ LifeOKc_traffic hl (h.opened hx))) h.j

theorem J_close (G : Prop) (c : String) (en : Bool) (fuel : Nat) (s : RState) (hs : J G s.conns s.sysLog) :
    wp (exec fuel (.close c en)) (fun _ s' => J G s'.conns s'.sysLog) s := by
  refine wp_mono (close_spec InvO_upd G en fuel s hs.fd (fun _ x hx ho => (hs.inv c x hx).fdOpen ho)
    (InvO_of_InvLc hs.inv)) ?_
  rintro _ s' ⟨x, hx, hA⟩
  refine J_of_PA hA.frame hA ?_
  unfold closed
  split
  · rename_i h; exact LifeOKc_closed en ((hs.inv c x hx).2.1 h.1)
  · exact hs.inv c x hx

theorem J_target (G : Prop) (c : String) (fuel : Nat) (w : Work) (hw : target w = some c) :
    ∀ s, Pre (J G) (PJ G c) w s.conns s.sysLog → wp (exec fuel w) (fun _ s' => J G s'.conns s'.sysLog) s :=
  fun _ => foot (J_foot G c) (fun fuel en => J_close G c en fuel) fuel hw (Bool.or_true _)

theorem J_open (G : Prop) (c : String) (fuel : Nat) (s : RState) (k : Core)
    (hA : PA (InvO c) G c k s.conns s.sysLog) (hf : k.fdOpen = true) (hw : k.word = []) :
    wp (exec fuel (.open c)) (fun _ s' => J G s'.conns s'.sysLog) s := by
  cases fuel with
  | zero => exact exec_zero _ _ _
  | succ fuel =>
    refine wp_get_bind ?_
    refine wp_enter_bind fun _ _ _ => ?_
    refine wp_modConn_bind fun x1 hx1 => ?_
    refine wp_pop_bind fun t _ _ _ => ?_
    -- a join point, as in `foot`
    extract_lets jp
    msplit
    refine wp_guard fun _ => ?_
    refine wp_modConn_bind fun x2 hx2 => ?_
    have hA := (hA.map (fun k => { k with opened := true }) hx1 (y := { x1 with opened := true }) rfl).map
      (fun k => { k with word := k.word ++ ["open"] }) hx2 (y := { x2 with word := x2.word ++ ["open"] }) rfl
    refine J_target G c fuel _ rfl _ (J_of_PA hA.frame hA ?_)
    show LifeOKc ⟨true, k.registered, k.fdOpen, k.word ++ ["open"], k.closeErrNil⟩
    rw [hf, hw]; exact LifeOKc_open _ _

theorem J_register0 (G : Prop) (c : String) (fuel : Nat) (s : RState) (x : Conn) (hJ : J G s.conns s.sysLog)
    (hx : lookupL s.conns c = some x) (hr : x.registered = false) (hf : x.fdOpen = true) (hw : x.word = []) :
    wp (exec fuel (.register0 c)) (fun _ s' => J G s'.conns s'.sysLog) s := by
  cases fuel with
  | zero => exact exec_zero _ _ _
  | succ fuel =>
    refine wp_get_bind ?_
    refine wp_enter_bind fun _ _ _ => ?_
    refine wp_noteSys_bind fun x1 hx1 => ?_
    refine wp_pop_bind fun t _ _ _ => ?_
    have hA := (PA.of hx hJ.fd (InvO_of_InvLc hJ.inv) InvO_upd).log hx1 fun _ => hf
    msplit
    refine wp_guard fun _ => wp_if (fun _ => ?_) fun _ => ?_
    · -- epoll_ctl failed: the descriptor is closed again
      refine wp_noteSys_bind fun x2 hx2 => ?_
      refine wp_pop_bind fun t _ _ _ => ?_
      msplit
      refine wp_guard fun _ => ?_
      refine wp_modConn_bind fun x3 hx3 => ?_
      replace hA := (hA.log hx2 fun _ => hf).map (fun k => { k with opened := false, fdOpen := false }) hx3
        (y := { x3 with fdOpen := false, opened := false }) rfl
      refine wp_ret (J_of_PA hA.frame hA ?_)
      show LifeOKc ⟨false, x.registered, false, x.word, x.closeErrNil⟩
      rw [hr, hw]; exact LifeOKc_new _ _
    · refine wp_modConn_bind fun x2 hx2 => ?_
      exact J_open G c fuel _ _ (hA.map (fun k => { k with registered := true }) hx2 (by rfl)) hf hw

end Gnet.Proofs.ReactorL
