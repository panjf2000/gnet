/-
  `iterate` with removal of each visited connection (the shutdown pattern): compaction is off during
  the loop, the weaker `LoopInv` holds, and the registry ends up empty and reusable.
-/
import Gnet.Proofs.RegistryDel
namespace Gnet.Proofs.Registry
open Gnet

/-- the `let cell` of `Matrix.iterLoop` -/
def readCell (snap : Nat → Option (Nat → Option Nat)) (m : Matrix) (r c : Nat) : Option Nat :=
  match snap r with
  | none => none
  | some str => match m.table r with
    | some tr => tr c
    | none => str c

theorem iterLoop_nil (del : Bool) (stop : Nat) (m : Matrix) (snap : Nat → Option (Nat → Option Nat))
    (acc : List Nat) : Matrix.iterLoop del stop [] m snap acc = some (m, acc.reverse) := by
  rw [Matrix.iterLoop]

theorem iterLoop_cons {del : Bool} {stop r c : Nat} {rest : List (Nat × Nat)} {m : Matrix}
    {snap : Nat → Option (Nat → Option Nat)} {acc : List Nat} :
    Matrix.iterLoop del stop ((r, c) :: rest) m snap acc =
      match readCell snap m r c with
      | none => Matrix.iterLoop del stop rest m snap acc
      | some id =>
        match (if del then m.delConn id else some m) with
        | none => none
        | some m' =>
          if stop ≠ 0 ∧ (id :: acc).length ≥ stop then some (m', (id :: acc).reverse)
          else Matrix.iterLoop del stop rest m' snap (id :: acc) := by
  rw [Matrix.iterLoop]
  rfl

theorem readCell_self (m : Matrix) (r c : Nat) : readCell m.table m r c = cellT m.table r c := by
  unfold readCell cellT
  cases m.table r <;> rfl

def visit (m : Matrix) (l : List (Nat × Nat)) : List Nat :=
  l.filterMap (fun p => cellT m.table p.1 p.2)

theorem iterLoop_false (m : Matrix) : ∀ (l : List (Nat × Nat)) (acc : List Nat),
    Matrix.iterLoop false 0 l m m.table acc = some (m, acc.reverse ++ visit m l)
  | [], acc => by rw [iterLoop_nil]; simp [visit]
  | (r, c) :: rest, acc => by
    rw [iterLoop_cons, readCell_self]
    unfold visit
    rw [List.filterMap_cons]
    cases cellT m.table r c with
    | none => exact iterLoop_false m rest acc
    | some id => simpa [visit] using iterLoop_false m rest (id :: acc)

theorem cells_nodup (m : Matrix) : m.cells.Nodup := by
  unfold Matrix.cells List.Nodup
  rw [List.pairwise_flatMap]
  constructor
  · intro r _
    rw [List.pairwise_map]
    exact (List.nodup_range (n := m.cols)).imp (fun hab e => hab (by cases e; rfl))
  · refine (List.nodup_range (n := m.rows)).imp ?_
    intro r1 r2 hne x hx y hy e
    rw [List.mem_map] at hx hy
    obtain ⟨c1, _, rfl⟩ := hx
    obtain ⟨c2, _, e2⟩ := hy
    rw [← e2] at e
    cases e
    exact hne rfl

theorem mem_cells (m : Matrix) (r c : Nat) : (r, c) ∈ m.cells ↔ r < m.rows ∧ c < m.cols := by
  unfold Matrix.cells
  rw [List.mem_flatMap]
  constructor
  · rintro ⟨r', hr', hm⟩
    rw [List.mem_map] at hm
    obtain ⟨c', hc', e⟩ := hm
    cases e
    exact ⟨List.mem_range.1 hr', List.mem_range.1 hc'⟩
  · rintro ⟨hr, hc⟩
    exact ⟨r, List.mem_range.2 hr, List.mem_map.2 ⟨c, List.mem_range.2 hc, rfl⟩⟩

variable {m : Matrix} {s : RegSpec}

theorem Inv.visit_perm (h : Inv m s) : (visit m m.cells).Perm (s.live.map (·.2)) := by
  rw [List.perm_ext_iff_of_nodup]
  · intro id
    unfold visit
    rw [List.mem_filterMap, List.mem_map]
    constructor
    · rintro ⟨p, _, hc⟩
      exact ⟨(s.fdOf id, id), h.sinv.lookup_eq_some.1 (h.obj hc).2.2, rfl⟩
    · rintro ⟨p, hp, rfl⟩
      obtain ⟨r, c, _, h2⟩ := h.fwd (h.sinv.lookup_mem hp)
      obtain ⟨hr, hc, _⟩ := h.cell_bounds h2
      exact ⟨(r, c), (mem_cells m r c).2 ⟨hr, hc⟩, h2⟩
  · unfold visit List.Nodup
    refine List.Pairwise.filterMap _ ?_ (cells_nodup m)
    intro a a' hne b hb b' hb' e
    have := h.cell_inj hb hb' e
    exact hne (Prod.ext this.1 this.2)
  · exact h.sinv.ids_nodup

theorem Inv.iter_false (h : Inv m s) :
    ∃ ids, m.iterate false 0 = some (m, ids) ∧ ids.Perm (s.live.map (·.2)) := by
  refine ⟨visit m m.cells, ?_, h.visit_perm⟩
  have e : Matrix.iterLoop false 0 (Matrix.cells { m with disableCompact := true })
      { m with disableCompact := true } m.table [] =
        some ({ m with disableCompact := true }, visit m m.cells) :=
    iterLoop_false { m with disableCompact := true } m.cells []
  unfold Matrix.iterate
  dsimp only
  rw [e]
  dsimp only
  -- `{ m with disableCompact := false } = m`: turn `false` into `m.disableCompact`, then eta
  rw [← h.dc]

/-- `cur` in the removal loop: `m0`, the registry at its start, with compaction off and without the
    first `k r` cells of each row `r`. `cursor`: the first removal is of cell `(0, 0)` and pulls the
    cursor there for good; until then nothing of row 0 is gone (hence `hr0` in `remove`) -/
structure LoopInv (m0 : Matrix) (k : Nat → Nat) (cur : Matrix) : Prop where
  rows : cur.rows = m0.rows
  cols : cur.cols = m0.cols
  dc : cur.disableCompact = true
  objs : cur.objs = m0.objs
  cell : ∀ r c, cellT cur.table r c = if k r ≤ c then cellT m0.table r c else none
  cnt : ∀ r, cur.counts r = ((hi m0.row m0.col m0.cols r - k r : Nat) : Int)
  f2g : ∀ {fd r c}, cur.fd2gfd fd = some (r, c) → m0.fd2gfd fd = some (r, c) ∧ k r ≤ c
  cursor : (cur.row = 0 ∧ cur.col = 0) ∨ (k 0 = 0 ∧ cur.row = m0.row ∧ cur.col = m0.col)

variable {m0 cur : Matrix} {k : Nat → Nat}

theorem LoopInv.start (h0 : Inv m0 s) :
    LoopInv m0 (fun _ => 0) { m0 with disableCompact := true } where
  rows := rfl
  cols := rfl
  dc := rfl
  objs := rfl
  cell _ _ := (if_pos (Nat.zero_le _)).symm
  cnt := h0.cnt
  f2g hf := ⟨hf, Nat.zero_le _⟩
  cursor := .inr ⟨rfl, rfl, rfl⟩

/-- a dropped row is read from the snapshot, which shows the same -/
theorem LoopInv.read (li : LoopInv m0 k cur) {r c : Nat} (hk : k r ≤ c) :
    readCell m0.table cur r c = cellT m0.table r c := by
  have := li.cell r c
  rw [if_pos hk] at this
  unfold readCell
  cases hs : m0.table r with
  | none => unfold cellT; rw [hs]
  | some str => cases hc : cur.table r with
    | none => exact (cellT_of_row hs c).symm
    | some tr => exact (cellT_of_row hc c).symm.trans this

theorem LoopInv.remove (h0 : Inv m0 s) (li : LoopInv m0 k cur) {r id : Nat}
    (hid : cellT m0.table r (k r) = some id) (hr0 : k 0 = 0 → r = 0) :
    ∃ cur', cur.delConn id = some cur' ∧ LoopInv m0 (Matrix.upd k r (k r + 1)) cur' := by
  obtain ⟨hgrow, hgcol, hlive⟩ := h0.obj hid
  have hpos := h0.cell_lt_hi hid
  have hal : (cur.table r).isSome :=
    row_of_cell (id := id) (by rw [li.cell, if_pos (Nat.le_refl _)]; exact hid)
  refine ⟨delCore cur (s.fdOf id) r (k r), ?_, ?_⟩
  · simp only [delConn_eq cur id (by rw [li.objs, hgrow]; exact hal), li.objs, hgrow, hgcol, h0.objfd]
    exact if_neg fun a => by
      rw [show (delCore cur (s.fdOf id) r (k r)).disableCompact = true from li.dc] at a; cases a.1
  · exact
      { rows := li.rows
        cols := li.cols
        dc := li.dc
        objs := li.objs
        cell := by
          intro r' c'
          show cellT (clearT cur.table (cur.counts r - 1) r (k r)) r' c' = _
          rw [cellT_clearT, li.cell]
          · rw [upd_apply]
            by_cases e : r' = r
            · subst e
              by_cases e2 : c' = k r'
              · rw [if_pos ⟨rfl, e2⟩, if_pos rfl, if_neg (by omega)]
              · rw [if_neg (fun a => e2 a.2), if_pos rfl]
                by_cases e3 : k r' ≤ c'
                · rw [if_pos e3, if_pos (by omega)]
                · rw [if_neg e3, if_neg (by omega)]
            · rw [if_neg (fun a => e a.1), if_neg e]
          · -- a dropped row held only the removed connection
            intro hz c' hc
            rw [li.cnt] at hz
            rw [li.cell]
            split
            · exact h0.cell_none (by omega)
            · rfl
        cnt := by
          intro r'
          show Matrix.upd cur.counts r (cur.counts r - 1) r' = _
          rw [upd_apply, upd_apply]
          split
          · subst r'; rw [li.cnt]; omega
          · exact li.cnt r'
        f2g := by
          intro fd r' c' hf
          replace hf : Matrix.updI cur.fd2gfd (s.fdOf id) none fd = some (r', c') := hf
          by_cases e : fd = s.fdOf id
          · rw [e, updI_same] at hf; cases hf
          · rw [updI_other e] at hf
            obtain ⟨h1, h2⟩ := li.f2g hf
            refine ⟨h1, ?_⟩
            rw [upd_apply]
            split
            · subst r'
              -- the cell of `id` belongs to the descriptor of `id` only
              have : c' ≠ k r := fun e2 => by
                obtain ⟨id', hid', hl'⟩ := h0.fd2gfd_some h1
                rw [e2, hid] at hid'
                cases hid'
                exact e (h0.sinv.fdof _ (h0.sinv.lookup_eq_some.1 hl')).symm
              omega
            · exact h2
        cursor := by
          left
          show (if cur.row > r ∨ cur.col > k r then r else cur.row) = 0 ∧
            (if cur.row > r ∨ cur.col > k r then k r else cur.col) = 0
          rcases li.cursor with hc | ⟨hz, h1, h2⟩
          · rw [if_neg (by omega), if_neg (by omega)]; exact hc
          · have := hr0 hz
            subst this
            have := h0.c2
            have := lt_hi.1 hpos
            rw [if_pos (by omega), if_pos (by omega)]; exact ⟨rfl, hz⟩ }

/-- cells of row `r'` removed when the loop is about to visit `(r, c)` -/
def removedBefore (m0 : Matrix) (r c r' : Nat) : Nat :=
  min (hi r c m0.cols r') (hi m0.row m0.col m0.cols r')

theorem removedBefore_origin : removedBefore m0 0 0 = fun _ => 0 :=
  funext fun r' => by unfold removedBefore; rw [hi_zero, Nat.zero_min]

theorem removedBefore_row_end (r : Nat) : removedBefore m0 r m0.cols = removedBefore m0 (r + 1) 0 :=
  funext fun r' => by unfold removedBefore; rw [hi_row_end]

theorem removedBefore_succ_of_none {r c : Nat} (h : hi m0.row m0.col m0.cols r ≤ c) :
    removedBefore m0 r (c + 1) = removedBefore m0 r c := by
  funext r'
  unfold removedBefore
  rw [hi_succ]
  split
  · subst r'; rw [hi_self]; omega
  · rfl

theorem removedBefore_succ_of_some {r c : Nat} (h : c < hi m0.row m0.col m0.cols r) :
    removedBefore m0 r c r = c ∧
      removedBefore m0 r (c + 1) = Matrix.upd (removedBefore m0 r c) r (c + 1) := by
  refine ⟨by unfold removedBefore; rw [hi_self]; omega, funext fun r' => ?_⟩
  unfold removedBefore
  rw [upd_apply, hi_succ]
  split
  · subst r'; omega
  · rfl

def Walks (m0 : Matrix) (l : List (Nat × Nat)) (P Q : Matrix → Prop) : Prop :=
  ∀ cur, P cur → ∃ cur', Q cur' ∧ ∀ rest acc,
    Matrix.iterLoop true 0 (l ++ rest) cur m0.table acc =
      Matrix.iterLoop true 0 rest cur' m0.table ((visit m0 l).reverse ++ acc)

theorem Walks.range' {f : Nat → List (Nat × Nat)} {P : Nat → Matrix → Prop}
    (hf : ∀ i, Walks m0 (f i) (P i) (P (i + 1))) :
    ∀ n a, Walks m0 ((List.range' a n).flatMap f) (P a) (P (a + n))
  | 0, _ => fun cur h => ⟨cur, h, fun _ _ => rfl⟩
  | n + 1, a => fun cur h => by
    obtain ⟨cur1, h1, e1⟩ := hf a cur h
    obtain ⟨cur2, h2, e2⟩ := Walks.range' hf n (a + 1) cur1 h1
    refine ⟨cur2, by rw [show a + (n + 1) = a + 1 + n by omega]; exact h2, fun rest acc => ?_⟩
    rw [List.range'_succ, List.flatMap_cons, List.append_assoc, e1, e2]
    unfold visit
    rw [List.filterMap_append, List.reverse_append, List.append_assoc]

theorem LoopInv.walks_cell (h0 : Inv m0 s) (r c : Nat) :
    Walks m0 [(r, c)] (LoopInv m0 (removedBefore m0 r c))
      (LoopInv m0 (removedBefore m0 r (c + 1))) := by
  intro cur li
  have hread : readCell m0.table cur r c = cellT m0.table r c :=
    li.read (by unfold removedBefore; rw [hi_self]; exact Nat.min_le_left _ _)
  cases hc : cellT m0.table r c with
  | none =>
    have : hi m0.row m0.col m0.cols r ≤ c := Nat.le_of_not_lt fun a => by
      have := (h0.dense r c).2 a
      rw [hc] at this; cases this
    refine ⟨cur, by rw [removedBefore_succ_of_none this]; exact li, fun rest acc => ?_⟩
    rw [List.singleton_append, iterLoop_cons, hread, hc]
    simp [visit, hc]
  | some id =>
    obtain ⟨hk, hk'⟩ := removedBefore_succ_of_some (h0.cell_lt_hi hc)
    obtain ⟨cur', hdel, li'⟩ := li.remove h0 (by rw [hk]; exact hc) fun hz =>
      -- the origin is occupied, so nothing of row 0 removed means the loop is in row 0
      Decidable.byContradiction fun e => by
        have h1 : hi r c m0.cols 0 = m0.cols := hi_of_lt (by omega)
        have h2 := lt_hi (R := m0.row) (C := m0.col) (cols := m0.cols) (r := 0) (c := 0)
        have := lt_hi.1 (h0.cell_lt_hi hc)
        have := h0.c2
        unfold removedBefore at hz
        rw [h1] at hz
        omega
    rw [hk] at li'
    refine ⟨cur', by rw [hk']; exact li', fun rest acc => ?_⟩
    rw [List.singleton_append, iterLoop_cons, hread, hc]
    simp [visit, hc, hdel]

theorem Inv.iter_true (h : Inv m s) :
    ∃ m' ids, m.iterate true 0 = some (m', ids) ∧ ids.Perm (s.live.map (·.2)) ∧
      Inv m' (s.step (.iter true)) ∧ m'.rows = m.rows ∧ m'.cols = m.cols := by
  have hrow : ∀ r, Walks m ((List.range m.cols).map fun c => (r, c))
      (LoopInv m (removedBefore m r 0)) (LoopInv m (removedBefore m (r + 1) 0)) := by
    intro r
    have := Walks.range' (fun c => LoopInv.walks_cell h r c) m.cols 0
    rw [← List.range_eq_range', ← List.map_eq_flatMap, Nat.zero_add, removedBefore_row_end]
      at this
    exact this
  have hstart : LoopInv m (removedBefore m 0 0) { m with disableCompact := true } := by
    rw [removedBefore_origin]
    exact LoopInv.start h
  obtain ⟨cur, li, e⟩ := Walks.range' hrow m.rows 0 _ hstart
  rw [Nat.zero_add] at li
  replace e := e [] []
  rw [← List.range_eq_range', List.append_nil, iterLoop_nil] at e
  have hcur := h.cur
  have hc2 := h.c2
  have hk : ∀ r, removedBefore m m.rows 0 r = hi m.row m.col m.cols r := fun r =>
    -- the fill under the cursor is at most that of the whole table
    Nat.min_eq_right (Nat.le_of_not_lt fun a => by
      have := lt_hi.1 a
      have :=
        (lt_hi (R := m.rows) (C := 0) (cols := m.cols) (r := r) (c := hi m.rows 0 m.cols r)).2
      omega)
  refine ⟨{ cur with disableCompact := false }, visit m m.cells, ?_, h.visit_perm, ?_, li.rows, li.cols⟩
  · unfold Matrix.iterate Matrix.cells
    dsimp only
    rw [e]
    simp
  · have hcz : cur.row = 0 ∧ cur.col = 0 := by
      rcases li.cursor with hc | ⟨hz, h1, h2⟩
      · exact hc
      · rw [hk] at hz
        have := lt_hi (R := m.row) (C := m.col) (cols := m.cols) (r := 0) (c := 0)
        omega
    apply Inv.empty (m := { cur with disableCompact := false })
    · exact li.cols ▸ h.c2
    · exact li.rows ▸ h.rle
    · exact li.cols ▸ h.cle
    · exact hcz.1
    · exact hcz.2
    · rfl
    · intro r c
      show cellT cur.table r c = none
      rw [li.cell, hk]
      split
      · exact h.cell_none ‹_›
      · rfl
    · intro r
      show cur.counts r = 0
      rw [li.cnt, hk, Nat.sub_self]; rfl
    · intro fd
      cases hf : cur.fd2gfd fd with
      | none => rfl
      | some p =>
        obtain ⟨h1, h2⟩ := li.f2g hf
        obtain ⟨id, hid, _⟩ := h.fd2gfd_some h1
        have := h.cell_lt_hi hid
        rw [hk] at h2
        omega
    · intro i
      show (cur.objs i).fd = s.fdOf i
      rw [li.objs]; exact h.objfd i

end Gnet.Proofs.Registry
