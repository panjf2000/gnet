/-
  The invariant of the wake-up protocol model (C03). Whatever holds of both queues is stated once,
  for the queue selected by a `Bool` (`false` urgent, `true` low).
-/
import Gnet.Model.Wake
import Gnet.Proofs.WakeMsq
namespace Gnet.Proofs.Wake
open Gnet Gnet.Wake
open Gnet.Proofs.Msq (thr EnqPc DeqPc PendPc PendPc_iff Served Only)

def wt (s : State) (j : Nat) : Thread := s.threads.getD j {}

theorem wt_of_getElem? {s : State} {j : Nat} {t : Thread} (h : s.threads[j]? = some t) : wt s j = t :=
  getD_of_getElem? h

theorem getElem?_of_lt {s : State} {j : Nat} (h : j < s.threads.length) : s.threads[j]? = some (wt s j) :=
  getElem?_getD_of_lt h

theorem wt_of_ge {s : State} {j : Nat} (h : s.threads.length ≤ j) : wt s j = {} := getD_of_ge h

theorem wt_setThread_self {s : State} {tid : Nat} {t' : Thread} (h : tid < s.threads.length) :
    wt (setThread s tid t') tid = t' := getD_set_self h

theorem wt_setThread_ne {s : State} {tid j : Nat} {t' : Thread} (h : j ≠ tid) :
    wt (setThread s tid t') j = wt s j := getD_set_ne h

theorem loopPc_eq (s : State) : loopPc s = (wt s 0).pc := rfl

def qOf (s : State) : Bool → Msq.State
  | false => s.urgent
  | true => s.low
/-- written with `bif` under the constructor so that the other fields reduce without knowing `b` -/
def setQ (s : State) (b : Bool) (x : Msq.State) : State :=
  { s with urgent := bif b then s.urgent else x, low := bif b then x else s.low }
def doneOf (s : State) : Bool → List Nat
  | false => s.executedU
  | true => s.executedL
def pEnq : Bool → Pc
  | false => .pEnqU
  | true => .pEnqL
def lDeq : Bool → Pc
  | false => .lDeqU
  | true => .lDeqL

@[simp] theorem qOf_setQ_self (s : State) (b : Bool) (x : Msq.State) : qOf (setQ s b x) b = x := by
  cases b <;> rfl
@[simp] theorem qOf_setQ_not (s : State) (b : Bool) (x : Msq.State) : qOf (setQ s b x) (!b) = qOf s (!b) := by
  cases b <;> rfl

theorem forall_q {P : Bool → Prop} (b : Bool) (h : P b) (h' : P (!b)) : ∀ b', P b' := by
  cases b <;> intro b' <;> cases b' <;> assumption

def LoopPc : Pc → Bool
  | .lWait | .lDeqU | .lDeqL | .lStore | .lEmptyL | .lEmptyU | .lCas | .lWrite | .lExit => true
  | _ => false
def ProdPc : Pc → Bool
  | .idle | .pLen | .pEnqU | .pEnqL | .pCas | .pWrite => true
  | _ => false

theorem LoopPc_pEnq (b : Bool) : LoopPc (pEnq b) = false := by cases b <;> rfl
theorem ProdPc_pEnq (b : Bool) : ProdPc (pEnq b) = true := by cases b <;> rfl
theorem LoopPc_lDeq (b : Bool) : LoopPc (lDeq b) = true := by cases b <;> rfl
theorem ProdPc_lDeq (b : Bool) : ProdPc (lDeq b) = false := by cases b <;> rfl

def subOk : Bool → Pc → Msq.Pc → Bool
  | false, .pEnqU, x | true, .pEnqL, x => EnqPc x
  | false, .lDeqU, x | true, .lDeqL, x => DeqPc x
  | _, _, x => x == .idle

/-- single consumer, producers only enqueue, sub-operations are in progress exactly
    while the protocol pc says so -/
def TOk (j : Nat) (p : Pc) (sub : Bool → Msq.Pc) : Prop :=
  (if j = 0 then LoopPc p else ProdPc p) = true ∧ ∀ b, subOk b p (sub b) = true

/-- the producer has linked its task and not finished its own wake-up attempt -/
def pend (p : Pc) (u l : Msq.Pc) : Bool :=
  match p with
  | .pCas | .pWrite => true
  | .pEnqU => PendPc u
  | .pEnqL => PendPc l
  | _ => false

def pendAt (s : State) (j : Nat) : Prop := pend (wt s j).pc (thr s.urgent j).pc (thr s.low j).pc = true
def writes (s : State) (j : Nat) : Prop := (wt s j).pc = .pWrite

def Pending (s : State) : Prop := ∃ j, 0 < j ∧ pendAt s j

theorem TOk.pos {j : Nat} {p : Pc} {sub : Bool → Msq.Pc} (h : TOk j p sub) (hp : LoopPc p = false) :
    0 < j :=
  Nat.pos_of_ne_zero fun e => by have := h.1; simp [e, hp] at this

theorem TOk.zero {j : Nat} {p : Pc} {sub : Bool → Msq.Pc} (h : TOk j p sub) (hp : ProdPc p = false) :
    j = 0 :=
  Classical.byContradiction fun e => by have := h.1; simp [e, hp] at this

/-- pcs outside the queue operations: the thread is idle in both queues -/
def ctl : Pc → Bool
  | .pEnqU | .pEnqL | .lDeqU | .lDeqL => false
  | _ => true

theorem subOk_ctl {p : Pc} (hp : ctl p = true) (b : Bool) (x : Msq.Pc) : subOk b p x = (x == .idle) := by
  cases p <;> cases b <;> first | rfl | cases hp

theorem subOk_pEnq (b : Bool) (x : Msq.Pc) : subOk b (pEnq b) x = EnqPc x := by cases b <;> rfl
theorem subOk_lDeq (b : Bool) (x : Msq.Pc) : subOk b (lDeq b) x = DeqPc x := by cases b <;> rfl
theorem subOk_not (b : Bool) {p : Pc} (hp : p = pEnq b ∨ p = lDeq b ∨ ctl p = true) (x : Msq.Pc) :
    subOk (!b) p x = (x == .idle) := by
  rcases hp with rfl | rfl | hp
  · cases b <;> rfl
  · cases b <;> rfl
  · exact subOk_ctl hp _ _

theorem subOk_PendPc {b : Bool} {p : Pc} {x : Msq.Pc} (h : subOk b p x = true) (hx : PendPc x = true) :
    p = pEnq b := by
  rcases (PendPc_iff x).1 hx with rfl | rfl <;> cases b <;> cases p <;> first | rfl | cases h

theorem subOk_dSub {b : Bool} {p : Pc} (h : subOk b p .dSub = true) : p = lDeq b := by
  cases b <;> cases p <;> first | rfl | cases h

theorem TOk.idle {j : Nat} {p : Pc} {sub : Bool → Msq.Pc} (h : TOk j p sub) (hp : ctl p = true) (b : Bool) :
    sub b = .idle := by simpa [subOk_ctl hp] using h.2 b

theorem pendAt_pEnq {s : State} {j : Nat} {b : Bool} (h : (wt s j).pc = pEnq b) :
    pendAt s j ↔ PendPc (thr (qOf s b) j).pc = true := by
  unfold pendAt; rw [h]; cases b <;> rfl

theorem pending_iff (s : State) : Pending s ↔ producerPending s := by
  constructor
  · rintro ⟨j, h0, hp⟩
    by_cases hlt : j < s.threads.length
    · refine ⟨j, wt s j, h0, getElem?_of_lt hlt, ?_⟩
      revert hp
      unfold pendAt pend
      cases hpc : (wt s j).pc <;> simp [PendPc_iff, thr]
    · rw [pendAt, wt_of_ge (Nat.le_of_not_lt hlt)] at hp
      cases hp
  · rintro ⟨j, t, h0, ht, hp⟩
    refine ⟨j, h0, ?_⟩
    rw [pendAt, wt_of_getElem? ht]
    unfold pend
    rcases hp with h | h | ⟨h, h'⟩ | ⟨h, h'⟩ <;> simp [h, PendPc_iff] <;> exact h'

/-- loop pcs at which `wakeupCall = 1` needs no pending edge or writer -/
def CovFlag : Pc → Bool
  | .lWrite | .lDeqU | .lDeqL | .lStore | .lExit => true
  | _ => false
/-- loop pcs covering a task in a queue: the loop will look at that queue again before it sleeps, or has
    exited (`lExit`; the C03 statements exclude it by `hx`) -/
def CovQ : Bool → Pc → Bool
  | _, .lDeqU | _, .lDeqL | _, .lStore | _, .lEmptyL | _, .lCas | _, .lWrite | _, .lExit => true
  | false, .lEmptyU => true
  | _, _ => false

theorem CovFlag_lDeq (b : Bool) : CovFlag (lDeq b) = true := by cases b <;> rfl

theorem CovFlag_CovQ {b : Bool} {p : Pc} (h : CovFlag p = true) : CovQ b p = true := by
  cases p <;> simp [CovFlag] at h <;> cases b <;> rfl

/-- a wake-up is on its way: an eventfd edge, a producer of the kind `P` that will still make its attempt, or
    the loop at a pc in `X` -/
def Cov (P : State → Nat → Prop) (X : Pc → Bool) (s : State) : Prop :=
  s.edge = true ∨ (∃ j, 0 < j ∧ P s j) ∨ X (wt s 0).pc = true

/-- `reach` is `Msq.Reachable`, not `Msq.Inv`, because C03 exports it (`wake_queues_reachable`); `lc` serves
    liveness only (`lDeq_return`) -/
structure WInv (s : State) : Prop where
  reach : ∀ b, Msq.Reachable (qOf s b)
  len : ∀ b, (qOf s b).threads.length = s.threads.length
  pos : 0 < s.threads.length
  tok : ∀ j, TOk j (wt s j).pc fun b => (thr (qOf s b) j).pc
  flag : s.wakeupCall = 0 ∨ s.wakeupCall = 1
  flagCov : s.wakeupCall = 1 → Cov writes CovFlag s
  taskCov : ∀ b, (qOf s b).absQ ≠ [] → Cov pendAt (CovQ b) s
  served : ∀ b, Served 0 (qOf s b) (doneOf s b)
  lc : (wt s 0).pc = .lDeqU → (wt s 0).lowCount = 0

theorem WInv.tokOf {s : State} (W : WInv s) {tid : Nat} {t : Thread} (ht : s.threads[tid]? = some t) :
    TOk tid t.pc fun b => (thr (qOf s b) tid).pc := wt_of_getElem? ht ▸ W.tok tid

theorem WInv.subOkAt {s : State} (W : WInv s) (j : Nat) (b : Bool) :
    subOk b (wt s j).pc (thr (qOf s b) j).pc = true := (W.tok j).2 b

theorem WInv.inv {s : State} (W : WInv s) (b : Bool) : Msq.Inv (qOf s b) := Msq.inv_reachable (W.reach b)

/-- what a transition of thread `tid` leaves alone, in the protocol and in both queues -/
structure Frame (s s' : State) (tid : Nat) (t' : Thread) : Prop where
  lt : tid < s.threads.length
  threads : s'.threads = s.threads.set tid t'
  lenU : s'.urgent.threads.length = s.urgent.threads.length
  lenL : s'.low.threads.length = s.low.threads.length
  neU : ∀ j, j ≠ tid → Msq.thr s'.urgent j = Msq.thr s.urgent j
  neL : ∀ j, j ≠ tid → Msq.thr s'.low j = Msq.thr s.low j

theorem Frame.of {s s' : State} {tid : Nat} {t' : Thread} (lt : tid < s.threads.length)
    (threads : s'.threads = s.threads.set tid t') (h : ∀ b, Only tid (qOf s b) (qOf s' b)) :
    Frame s s' tid t' :=
  ⟨lt, threads, (h false).len, (h true).len, (h false).ne, (h true).ne⟩

namespace Frame
variable {s s' : State} {tid : Nat} {t' : Thread}

theorem wt_self (F : Frame s s' tid t') : wt s' tid = t' := by
  unfold wt; rw [F.threads, getD_set_self F.lt]

theorem wt_ne (F : Frame s s' tid t') {j : Nat} (h : j ≠ tid) : wt s' j = wt s j := by
  unfold wt; rw [F.threads, getD_set_ne h]

theorem len (F : Frame s s' tid t') : s'.threads.length = s.threads.length := by
  rw [F.threads]; simp

theorem only (F : Frame s s' tid t') : ∀ b, Only tid (qOf s b) (qOf s' b)
  | false => ⟨F.lenU, F.neU⟩
  | true => ⟨F.lenL, F.neL⟩

theorem pendAt_ne (F : Frame s s' tid t') {j : Nat} (h : j ≠ tid) : pendAt s' j ↔ pendAt s j := by
  unfold pendAt; rw [F.wt_ne h, F.neU j h, F.neL j h]

end Frame

namespace Cov
variable {s s' : State} {tid : Nat} {t' : Thread} {P P' : State → Nat → Prop} {X X' : Pc → Bool}

theorem mono (h : Cov P X s) (he : s.edge = true → s'.edge = true)
    (hP : ∀ j, 0 < j → P s j → P' s' j) (hX : X (wt s 0).pc = true → X' (wt s' 0).pc = true) :
    Cov P' X' s' := by
  rcases h with h | ⟨j, h0, h⟩ | h
  · exact .inl (he h)
  · exact .inr (.inl ⟨j, h0, hP j h0 h⟩)
  · exact .inr (.inr (hX h))

theorem self (h0 : 0 < tid) (h : P s tid) : Cov P X s := .inr (.inl ⟨tid, h0, h⟩)
theorem loop (h : X (wt s 0).pc = true) : Cov P X s := .inr (.inr h)

end Cov

theorem Frame.loop_at {s s' : State} {t' : Thread} {P : State → Nat → Prop} {X : Pc → Bool}
    (F : Frame s s' 0 t') (h : X t'.pc = true) : Cov P X s' := .loop (by rw [F.wt_self]; exact h)

theorem Frame.pend_self {s s' : State} {tid : Nat} {t' : Thread} (F : Frame s s' tid t')
    (h : ∀ u l, pend t'.pc u l = true) : pendAt s' tid := by
  rw [pendAt, F.wt_self]; exact h _ _

/-- in the shape of `Cov.mono`'s `hP`, hence the unused `0 < j`; likewise `writes_mono` -/
theorem Frame.pend_mono {s s' : State} {tid : Nat} {t' : Thread} (F : Frame s s' tid t')
    (h : pendAt s tid → pendAt s' tid) (j : Nat) (_ : 0 < j) (hp : pendAt s j) : pendAt s' j := by
  by_cases hj : j = tid
  · exact hj ▸ h (hj ▸ hp)
  · exact (F.pendAt_ne hj).2 hp

theorem pendAt_of_writes {s : State} {j : Nat} (h : writes s j) : pendAt s j := by
  unfold pendAt; rw [h]; rfl

theorem not_pendAt {s : State} {j : Nat} {t : Thread} (ht : s.threads[j]? = some t)
    (h : ∀ u l, pend t.pc u l = false) : ¬ pendAt s j := by
  rw [pendAt, wt_of_getElem? ht, h]; nofun

theorem Frame.writes_mono {s s' : State} {tid : Nat} {t' : Thread} (F : Frame s s' tid t')
    (h : (wt s tid).pc ≠ .pWrite) (j : Nat) (_ : 0 < j) (hp : writes s j) : writes s' j := by
  unfold writes; rw [F.wt_ne fun e => h (e ▸ hp)]; exact hp

theorem WInv.no_lost {s : State} (W : WInv s) (hq : anyQueued s) (hx : loopPc s ≠ .lExit) :
    WakeOutstanding s := by
  obtain ⟨b, hb⟩ : ∃ b, (qOf s b).absQ ≠ [] := hq.elim (⟨false, ·⟩) (⟨true, ·⟩)
  unfold WakeOutstanding
  rw [loopPc_eq] at hx ⊢
  rcases W.taskCov b hb with h | h | h
  · exact .inl h
  · exact .inr (.inr (.inr (.inr (.inr (.inr (.inr (.inr ((pending_iff s).1 h))))))))
  · revert h hx
    cases (wt s 0).pc <;> cases b <;> simp [CovQ]

theorem WInv.exactly_once {s : State} (W : WInv s) (b : Bool) :
    ∃ inflight : List Nat, inflight.length ≤ 1 ∧
      (qOf s b).enqLog = doneOf s b ++ inflight ++ (qOf s b).absQ := by
  obtain ⟨c, hh, t, I⟩ := W.inv b
  refine ⟨Msq.inflight (Msq.thr (qOf s b) 0), ?_, by rw [I.fifo, W.served b]⟩
  unfold Msq.inflight; split <;> simp

end Gnet.Proofs.Wake
