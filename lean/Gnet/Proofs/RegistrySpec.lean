/-
  The specification side of the registries: under `SInv` (live entries pairwise apart in descriptor and
  in id, `fdOf` agrees with them) `lookup` is membership, and `add`/`del` change it at one key.
-/
import Gnet.Proofs.ListFacts
import Gnet.Model.Registry
namespace Gnet.Proofs.Registry
open Gnet

theorem upd_apply {β : Type} (f : Nat → β) (k : Nat) (v : β) (i : Nat) :
    Matrix.upd f k v i = if i = k then v else f i := rfl
@[simp] theorem upd_same {β : Type} (f : Nat → β) (k : Nat) (v : β) : Matrix.upd f k v k = v :=
  if_pos rfl
@[simp] theorem upd_other {β : Type} {f : Nat → β} {k : Nat} {v : β} {i : Nat} (h : i ≠ k) :
    Matrix.upd f k v i = f i := if_neg h
theorem updI_apply {β : Type} (f : Int → β) (k : Int) (v : β) (i : Int) :
    Matrix.updI f k v i = if i = k then v else f i := rfl
@[simp] theorem updI_same {β : Type} (f : Int → β) (k : Int) (v : β) : Matrix.updI f k v k = v :=
  if_pos rfl
@[simp] theorem updI_other {β : Type} {f : Int → β} {k : Int} {v : β} {i : Int} (h : i ≠ k) :
    Matrix.updI f k v i = f i := if_neg h

def Apart (p q : Int × Nat) : Prop := p.1 ≠ q.1 ∧ p.2 ≠ q.2

theorem Apart.symm {p q : Int × Nat} (h : Apart p q) : Apart q p :=
  ⟨fun e => h.1 e.symm, fun e => h.2 e.symm⟩

theorem keys_remove_id {l : List (Int × Nat)} (hpw : l.Pairwise Apart) {fd : Int} {id : Nat}
    (hp : (fd, id) ∈ l) : (l.map (·.1)).erase fd = (l.filter (fun p => p.2 != id)).map (·.1) := by
  induction l with
  | nil => cases hp
  | cons a t ih =>
    rw [List.pairwise_cons] at hpw
    rcases List.mem_cons.1 hp with rfl | hin
    · have : t.filter (fun p => p.2 != id) = t :=
        List.filter_eq_self.2 fun q hq => by simpa using (hpw.1 q hq).2.symm
      simp [this]
    · obtain ⟨h1, h2⟩ := hpw.1 _ hin
      rw [List.map_cons, List.erase_cons_tail (by simpa using h1), ih hpw.2 hin,
        List.filter_cons_of_pos (by simpa using h2), List.map_cons]

theorem length_remove_id {l : List (Int × Nat)} (hpw : l.Pairwise Apart) {fd : Int} {id : Nat}
    (hp : (fd, id) ∈ l) : (l.filter (fun p => p.2 != id)).length + 1 = l.length := by
  have := congrArg List.length (keys_remove_id hpw hp)
  rw [List.length_erase_of_mem (List.mem_map_of_mem hp), List.length_map, List.length_map] at this
  have := List.length_pos_of_mem hp
  omega

structure SInv (s : RegSpec) : Prop where
  pw : s.live.Pairwise Apart
  fdof : ∀ p ∈ s.live, s.fdOf p.2 = p.1

variable {s : RegSpec}

theorem SInv.nil (fdOf : Nat → Int) : SInv ⟨[], fdOf⟩ := ⟨.nil, nofun⟩

theorem SInv.eq_of (h : SInv s) {p q : Int × Nat} (hp : p ∈ s.live) (hq : q ∈ s.live)
    (e : p.1 = q.1 ∨ p.2 = q.2) : p = q :=
  Decidable.byContradiction fun hne =>
    have a := pairwise_erase Apart.symm h.pw hp ((List.mem_erase_of_ne (Ne.symm hne)).2 hq)
    e.elim a.1 a.2

theorem SInv.conn (h : SInv s) (id : Nat) (fd : Int) (hv : ∀ p ∈ s.live, p.2 ≠ id) :
    SInv (s.step (.conn id fd)) := by
  refine ⟨h.pw, ?_⟩
  intro p hp
  show (if p.2 = id then fd else s.fdOf p.2) = p.1
  rw [if_neg (hv p hp)]; exact h.fdof p hp

theorem SInv.add (h : SInv s) (id el : Nat) (hv : ∀ p ∈ s.live, p.1 ≠ s.fdOf id ∧ p.2 ≠ id) :
    SInv (s.step (.add id el)) := by
  refine ⟨?_, ?_⟩
  · show (s.live ++ [(s.fdOf id, id)]).Pairwise Apart
    rw [List.pairwise_append]
    refine ⟨h.pw, List.pairwise_singleton _ _, ?_⟩
    intro a ha b hb
    rw [List.mem_singleton] at hb
    subst hb
    exact hv a ha
  · intro p hp
    have hp' : p ∈ s.live ++ [(s.fdOf id, id)] := hp
    rcases List.mem_append.1 hp' with hp | hp
    · exact h.fdof p hp
    · rw [List.mem_singleton] at hp; subst hp; rfl

theorem SInv.del (h : SInv s) (id : Nat) : SInv (s.step (.del id)) :=
  ⟨List.Pairwise.filter _ h.pw, fun p hp => h.fdof p (List.mem_filter.1 hp).1⟩

theorem SInv.step (h : SInv s) {cap : Nat} {op : RegOp} (hv : s.valid cap op) :
    SInv (s.step op) := by
  cases op with
  | conn id fd => exact h.conn id fd hv
  | add id el => exact h.add id el hv.1
  | del id => exact h.del id
  | get fd => exact h
  | count => exact h
  | iter d =>
    cases d with
    | false => exact h
    | true => exact .nil _

theorem SInv.foldl {cap : Nat} :
    ∀ (ops : List RegOp) {s : RegSpec}, SInv s → s.validRun cap ops →
    SInv (ops.foldl RegSpec.step s)
  | [], _, h, _ => h
  | _ :: ops, _, h, hv => SInv.foldl ops (h.step hv.1) hv.2

theorem SInv.keys_nodup (h : SInv s) : (s.live.map (·.1)).Nodup :=
  List.pairwise_map.2 (h.pw.imp fun hab => hab.1)

theorem SInv.ids_nodup (h : SInv s) : (s.live.map (·.2)).Nodup :=
  List.pairwise_map.2 (h.pw.imp fun hab => hab.2)

theorem lookup_not_key {fd : Int} (hn : ∀ p ∈ s.live, p.1 ≠ fd) : s.lookup fd = none := by
  unfold RegSpec.lookup
  rw [List.find?_eq_none.2 fun p hp => by simpa using hn p hp]
  rfl

theorem fdOf_ne {i j : Nat}
    (hi : s.lookup (s.fdOf i) = some i) (hj : s.lookup (s.fdOf j) = some j)
    (hne : i ≠ j) : s.fdOf i ≠ s.fdOf j :=
  fun e => hne (Option.some.inj ((e ▸ hi).symm.trans hj))

theorem SInv.lookup_eq_some (h : SInv s) {fd : Int} {id : Nat} :
    s.lookup fd = some id ↔ (fd, id) ∈ s.live := by
  unfold RegSpec.lookup
  constructor
  · intro e
    obtain ⟨q, hf, rfl⟩ := Option.map_eq_some_iff.1 e
    have : q.1 = fd := by simpa using List.find?_some hf
    exact this ▸ List.mem_of_find?_eq_some hf
  · intro hp
    rw [find?_key Prod.fst h.keys_nodup hp]; rfl

theorem SInv.lookup_mem (h : SInv s) {fd : Int} {id : Nat} (hp : (fd, id) ∈ s.live) :
    s.lookup fd = some id := h.lookup_eq_some.2 hp

theorem lookup_add (id el : Nat) (hv : ∀ p ∈ s.live, p.1 ≠ s.fdOf id) (fd : Int) :
    (s.step (.add id el)).lookup fd = if fd = s.fdOf id then some id else s.lookup fd := by
  show ((s.live ++ [(s.fdOf id, id)]).find? _).map _ = _
  rw [List.find?_append, List.find?_singleton]
  by_cases e : fd = s.fdOf id
  · rw [if_pos e, e, List.find?_eq_none.2 fun p hp => by simpa using hv p hp]
    simp
  · rw [if_neg e, if_neg (by simpa using Ne.symm e), Option.or_none]
    rfl

theorem SInv.lookup_del (h : SInv s) {id : Nat} (hv : (s.fdOf id, id) ∈ s.live) (fd : Int) :
    (s.step (.del id)).lookup fd = if fd = s.fdOf id then none else s.lookup fd := by
  have hmem : ∀ x, (fd, x) ∈ (s.step (.del id)).live ↔ (fd, x) ∈ s.live ∧ x ≠ id := fun x => by
    show (fd, x) ∈ s.live.filter _ ↔ _
    simp
  apply Option.ext
  intro x
  rw [(h.del id).lookup_eq_some, hmem]
  by_cases e : fd = s.fdOf id
  · rw [if_pos e, e]
    exact iff_of_false (fun a => a.2 (congrArg Prod.snd (h.eq_of a.1 hv (.inl rfl))))
      (fun a => nomatch a)
  · rw [if_neg e, h.lookup_eq_some]
    exact and_iff_left_of_imp fun hx e' => e (congrArg Prod.fst (h.eq_of hx hv (.inr e')))

end Gnet.Proofs.Registry
