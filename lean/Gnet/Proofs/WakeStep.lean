/-
  Preservation of the wake-up protocol invariant (C03). A transition is given by what it does to the
  queues (`QStep`) and by what it establishes about the acting thread and the covers (`Oblig`);
  `WInv.update` does the rest.
-/
import Gnet.Model.Wake
import Gnet.Proofs.WakeSolo
import Gnet.Proofs.WakeInv
namespace Gnet.Proofs.Wake
open Gnet Gnet.Wake
open Gnet.Proofs.Msq (thr EnqPc DeqPc PendPc_iff Served Only only_step only_start)

theorem WInv.pending_of_len0 {s : State} (W : WInv s) (b : Bool) (hl : (wt s 0).pc ≠ lDeq b)
    (hlen : (qOf s b).length = 0) (hq : (qOf s b).absQ ≠ []) : Pending s := by
  obtain ⟨j, _, hp⟩ := Msq.lag_pending (W.inv b) hlen hq fun j h => by
    have hpc := subOk_dSub (h ▸ W.subOkAt j b)
    obtain rfl : j = 0 := (W.tok j).zero (hpc ▸ ProdPc_lDeq b)
    exact hl hpc
  have hpc := subOk_PendPc (W.subOkAt j b) hp
  exact ⟨j, (W.tok j).pos (hpc ▸ LoopPc_pEnq b), (pendAt_pEnq hpc).2 hp⟩

theorem pend_loop {p : Pc} {u l : Msq.Pc} (h : LoopPc p = true) : pend p u l = true → False := by
  cases p <;> simp [LoopPc] at h <;> simp [pend]

/-- what a transition does to the queues: queue `b` becomes `q'`, changed by `tid` alone and with `X` served;
    the other queue stays -/
structure QStep (s s' : State) (b : Bool) (tid : Nat) (q' : Msq.State) (X : List Nat) : Prop where
  q : qOf s' b = q'
  qn : qOf s' (!b) = qOf s (!b)
  d : doneOf s' b = X
  dn : doneOf s' (!b) = doneOf s (!b)
  only : Only tid (qOf s b) q'
  reach : Msq.Reachable q'
  served : Served 0 q' X

/-- a transition outside the queues; the selector `false` is arbitrary -/
theorem QStep.refl {s s' : State} (W : WInv s) (tid : Nat) (hq : ∀ b, qOf s' b = qOf s b)
    (hd : ∀ b, doneOf s' b = doneOf s b) : QStep s s' false tid (qOf s false) (doneOf s false) :=
  ⟨hq _, hq _, hd _, hd _, .refl .., W.reach _, W.served _⟩

theorem QStep.start {s s' : State} (W : WInv s) (b : Bool) {tid : Nat} {op : Msq.Op}
    (h1 : qOf s' b = Msq.start (qOf s b) tid op) (h2 : qOf s' (!b) = qOf s (!b))
    (hd : ∀ b', doneOf s' b' = doneOf s b') : QStep s s' b tid (Msq.start (qOf s b) tid op) (doneOf s b) :=
  ⟨h1, h2, hd _, hd _, only_start .., Msq.reachable_start (W.reach b) .., (W.served b).start ..⟩

theorem QStep.step {s s' : State} (W : WInv s) (b : Bool) {tid : Nat} {q' : Msq.State} {X : List Nat}
    (hq : (Msq.step (qOf s b) tid).1 = q') (h1 : qOf s' b = q') (h2 : qOf s' (!b) = qOf s (!b))
    (d : doneOf s' b = X) (dn : doneOf s' (!b) = doneOf s (!b)) (served : Served 0 q' X) :
    QStep s s' b tid q' X :=
  ⟨h1, h2, d, dn, hq ▸ only_step .., hq ▸ Msq.reachable_step (W.reach b) tid, served⟩

/-- what is left of `WInv s'` after `QStep`: the clauses about the acting thread, the flag and the covers,
    each queue clause once for queue `b` (now `q'`) and once for the other (as in `s`) -/
structure Oblig (s s' : State) (b : Bool) (tid : Nat) (q' : Msq.State) (t' : Thread) : Prop where
  role : (if tid = 0 then LoopPc t'.pc else ProdPc t'.pc) = true
  sub : subOk b t'.pc (thr q' tid).pc = true
  subN : subOk (!b) t'.pc (thr (qOf s (!b)) tid).pc = true
  flag : s'.wakeupCall = 0 ∨ s'.wakeupCall = 1
  flagCov : s'.wakeupCall = 1 → Cov writes CovFlag s'
  taskCov : q'.absQ ≠ [] → Cov pendAt (CovQ b) s'
  taskCovN : (qOf s (!b)).absQ ≠ [] → Cov pendAt (CovQ (!b)) s'
  lc : t'.pc = .lDeqU → t'.lowCount = 0

theorem WInv.update {s s' : State} {b : Bool} {tid : Nat} {q' : Msq.State} {X : List Nat} {t' : Thread}
    (W : WInv s) (Q : QStep s s' b tid q' X) (hlt : tid < s.threads.length)
    (hth : s'.threads = s.threads.set tid t') (O : Frame s s' tid t' → Oblig s s' b tid q' t') :
    WInv s' := by
  have F : Frame s s' tid t' :=
    Frame.of hlt hth (forall_q b (by rw [Q.q]; exact Q.only) (by rw [Q.qn]; exact .refl ..))
  have o := O F
  refine ⟨forall_q b (by rw [Q.q]; exact Q.reach) (by rw [Q.qn]; exact W.reach _),
    fun b' => ?_, ?_, fun j => ?_, o.flag, o.flagCov,
    forall_q b (by rw [Q.q]; exact o.taskCov) (by rw [Q.qn]; exact o.taskCovN),
    forall_q b (by rw [Q.q, Q.d]; exact Q.served) (by rw [Q.qn, Q.dn]; exact W.served _), ?_⟩
  · rw [(F.only b').len, F.len, W.len]
  · rw [F.len]; exact W.pos
  · by_cases hj : j = tid
    · subst hj; rw [F.wt_self]
      exact ⟨o.role, forall_q b (by simp only [Q.q]; exact o.sub) (by simp only [Q.qn]; exact o.subN)⟩
    · rw [F.wt_ne hj]; simp only [(F.only _).ne j hj]; exact W.tok j
  · by_cases h0 : tid = 0
    · subst h0; rw [F.wt_self]; exact o.lc
    · rw [F.wt_ne (Ne.symm h0)]; exact W.lc

/-- the loop moves inside the chores (to a pc of `CovFlag`): every cover holds by the loop's pc -/
theorem Oblig.chores {s s' : State} {b : Bool} {q' : Msq.State} {t' : Thread} (F : Frame s s' 0 t')
    (hp : CovFlag t'.pc = true) (role : LoopPc t'.pc = true) (sub : subOk b t'.pc (thr q' 0).pc = true)
    (subN : subOk (!b) t'.pc (thr (qOf s (!b)) 0).pc = true)
    (flag : s'.wakeupCall = 0 ∨ s'.wakeupCall = 1)
    (lc : t'.pc = .lDeqU → t'.lowCount = 0) : Oblig s s' b 0 q' t' :=
  { role, sub, subN, flag, lc,
    flagCov := fun _ => F.loop_at hp,
    taskCov := fun _ => F.loop_at (CovFlag_CovQ hp),
    taskCovN := fun _ => F.loop_at (CovFlag_CovQ hp) }

/-- pcs between which a set flag stays covered while flag and edge are untouched -/
def Keep (p p' : Pc) : Bool := p != .pWrite && (!CovFlag p || CovFlag p')

/-- with the flag set, what covers it covers both queues as well -/
theorem WInv.flag_cov {s s' : State} {tid : Nat} {t t' : Thread} {p : Pc} (W : WInv s)
    (F : Frame s s' tid t') (ht : s.threads[tid]? = some t) (hpc : t.pc = p) (hk : Keep p t'.pc = true)
    (he : s'.edge = s.edge) (h1 : s.wakeupCall = 1) :
    Cov writes CovFlag s' ∧ ∀ b, Cov pendAt (CovQ b) s' := by
  have hw := wt_of_getElem? ht
  simp only [Keep, Bool.and_eq_true, bne_iff_ne, Bool.or_eq_true, Bool.not_eq_true'] at hk
  have hwr := F.writes_mono (by rw [hw, hpc]; exact hk.1)
  have hX : CovFlag (wt s 0).pc = true → CovFlag (wt s' 0).pc = true := by
    by_cases h0 : tid = 0
    · subst h0; rw [hw, hpc, F.wt_self]
      exact fun h => hk.2.resolve_left (by rw [h]; nofun)
    · rw [F.wt_ne (Ne.symm h0)]; exact id
  exact ⟨(W.flagCov h1).mono (he ▸ id) hwr hX,
    fun _ => (W.flagCov h1).mono (he ▸ id) (fun j hj hp => pendAt_of_writes (hwr j hj hp))
      fun h => CovFlag_CovQ (hX h)⟩

theorem WInv.flagCov_keep {s s' : State} {tid : Nat} {t t' : Thread} {p : Pc} (W : WInv s)
    (F : Frame s s' tid t') (ht : s.threads[tid]? = some t) (hpc : t.pc = p) (hk : Keep p t'.pc = true)
    (hwc : s'.wakeupCall = s.wakeupCall) (he : s'.edge = s.edge) :
    s'.wakeupCall = 1 → Cov writes CovFlag s' :=
  fun h1 => (W.flag_cov F ht hpc hk he (hwc ▸ h1)).1

/-- like `Quiet` and `Keep` a Bool of pcs, so that at a use with literal pcs the proof is `rfl` -/
def Ctl (p p' : Pc) : Bool := ctl p && ctl p' && LoopPc p' == LoopPc p && ProdPc p' == ProdPc p

/-- stated for an update of all four control fields, so that every branch of `step` outside the queues
    unifies with it -/
theorem WInv.move {s : State} {tid : Nat} {t t' : Thread} {p : Pc} {w : Int} {n : Nat} {e m : Bool}
    (W : WInv s) (ht : s.threads[tid]? = some t) (hpc : t.pc = p) (hc : Ctl p t'.pc = true)
    (flag : w = 0 ∨ w = 1)
    (cov : let s' := setThread { s with wakeupCall := w, efdCount := n, edge := e, msecZero := m } tid t'
      Frame s s' tid t' →
        (w = 1 → Cov writes CovFlag s') ∧ ∀ b, (qOf s b).absQ ≠ [] → Cov pendAt (CovQ b) s') :
    WInv (setThread { s with wakeupCall := w, efdCount := n, edge := e, msecZero := m } tid t') := by
  simp only [Ctl, Bool.and_eq_true, beq_iff_eq] at hc
  obtain ⟨⟨⟨c1, c2⟩, hL⟩, hP⟩ := hc
  have hT := hpc ▸ W.tokOf ht
  have hok : ∀ b, subOk b t'.pc (thr (qOf s b) tid).pc = true := fun b => by
    rw [subOk_ctl c2, ← subOk_ctl c1]; exact hT.2 b
  exact W.update (QStep.refl W tid (fun _ => rfl) fun _ => rfl) (lt_of_getElem? ht) rfl fun F =>
    { role := by rw [hL, hP]; exact hT.1, sub := hok _, subN := hok _, flag, flagCov := (cov F).1,
      taskCov := (cov F).2 _, taskCovN := (cov F).2 _, lc := fun h => by rw [h] at c2; cases c2 }

theorem WInv.casFail {s : State} {tid : Nat} {t t' : Thread} {p : Pc} (W : WInv s)
    (ht : s.threads[tid]? = some t) (hpc : t.pc = p) (hc : Ctl p t'.pc = true) (hk : Keep p t'.pc = true)
    (h1 : s.wakeupCall ≠ 0) : WInv (setThread s tid t') :=
  W.move ht hpc hc W.flag fun F =>
    have c := W.flag_cov F ht hpc hk rfl (W.flag.resolve_left h1)
    ⟨fun _ => c.1, fun b _ => c.2 b⟩

/-- the loop moves on with flag and edge untouched: each queue is covered by the new pc, or was measured empty
    (a task in it has its producer pending), or was not covered by the old pc -/
theorem WInv.emptyCheck {s : State} (W : WInv s) {t t' : Thread} {p : Pc} (ht : s.threads[0]? = some t)
    (hpc : t.pc = p) (hc : Ctl p t'.pc = true) (hk : Keep p t'.pc = true)
    (h : ∀ b, CovQ b t'.pc = true ∨ ((qOf s b).length = 0 ∧ p ≠ lDeq b) ∨ CovQ b p = false) :
    WInv (setThread s 0 t') := by
  have hw : (wt s 0).pc = p := wt_of_getElem? ht ▸ hpc
  refine W.move ht hpc hc W.flag fun F => ⟨W.flagCov_keep F ht hpc hk rfl rfl, fun b hq => ?_⟩
  have others : ∀ j, 0 < j → pendAt s j → pendAt (setThread s 0 t') j :=
    fun j hj => (F.pendAt_ne (Nat.ne_of_gt hj)).2
  rcases h b with h | ⟨h, hl⟩ | h
  · exact F.loop_at h
  · obtain ⟨j, hj, hp⟩ := W.pending_of_len0 b (hw ▸ hl) h hq
    exact .self hj (others j hj hp)
  · exact (W.taskCov b hq).mono id others (by rw [hw, h]; nofun)

/-- the thread covered nothing and is not the writer (`Keep`): every cover is held by someone else and
    survives -/
theorem WInv.beginEnq {s : State} (W : WInv s) (b : Bool) {tid : Nat} {t t' : Thread} {p : Pc}
    (ht : s.threads[tid]? = some t) (hpc : t.pc = p) (h0 : 0 < tid) (hc : ctl p = true)
    (hnp : ∀ u l, pend p u l = false) (hk : Keep p t'.pc = true) (hp' : t'.pc = pEnq b) (v : Nat) :
    WInv (setThread (setQ s b (Msq.start (qOf s b) tid (.enq v))) tid t') := by
  subst hpc
  have hlt := lt_of_getElem? ht
  have hw := wt_of_getElem? ht
  have hT := W.tokOf ht
  have h00 := Nat.ne_of_lt h0
  have hnp' := not_pendAt ht hnp
  have hi := hT.idle hc
  have taskCov : ∀ {s'}, Frame s s' tid t' → s'.edge = s.edge → ∀ b', (qOf s b').absQ ≠ [] →
      Cov pendAt (CovQ b') s' := fun F he b' hq =>
    (W.taskCov b' hq).mono (he ▸ id) (F.pend_mono fun h => absurd h hnp') (by rw [F.wt_ne h00]; exact id)
  exact W.update (.start W b (qOf_setQ_self ..) (qOf_setQ_not ..) fun _ => rfl) hlt rfl fun F =>
    { role := by rw [if_neg h00.symm, hp', ProdPc_pEnq]
      sub := by rw [hp', subOk_pEnq, Msq.start_pc (.enq v) (by rw [W.len]; exact hlt) (hi b)]; rfl
      subN := by rw [hp', hi (!b), subOk_not b (.inl rfl)]; rfl
      flag := W.flag
      flagCov := W.flagCov_keep F ht rfl hk rfl rfl
      taskCov := fun hq => taskCov F rfl b (Msq.start_absQ .. ▸ hq)
      taskCovN := taskCov F rfl _
      lc := fun h => by rw [hp'] at h; cases b <;> cases h }

/-- `q`, `r` are abstracted and the match does not generalize so that `split` in `winv_step` yields exactly
    these goals -/
theorem WInv.enqStep {s : State} (W : WInv s) (b : Bool) {tid : Nat} {t : Thread}
    (ht : s.threads[tid]? = some t) (hpc : t.pc = pEnq b) {q : Msq.State} {r : Option Msq.Ret}
    (hq : (Msq.step (qOf s b) tid).1 = q) (hr : (Msq.step (qOf s b) tid).2 = r) :
    WInv (match (generalizing := false) r with
      | some _ => setThread (setQ s b q) tid { t with pc := .pCas }
      | none => setQ s b q) := by
  have hlt := lt_of_getElem? ht
  have hw := wt_of_getElem? ht
  have hT := hpc ▸ W.tokOf ht
  have h0 : 0 < tid := hT.pos (LoopPc_pEnq b)
  have h00 := Nat.ne_of_lt h0
  have hk : ∀ p', Keep (pEnq b) p' = true := fun _ => by cases b <;> rfl
  have hltQ : tid < (qOf s b).threads.length := by rw [W.len]; exact hlt
  have he : EnqPc (thr (qOf s b) tid).pc = true := subOk_pEnq b _ ▸ hT.2 b
  obtain ⟨_, hret, ha, hct, hadd⟩ := Msq.enq_step hltQ he
  have served := hq ▸ (W.served b).enq h00 hltQ he
  simp only [hq, hr] at hret ha hct hadd
  cases r with
  | none =>
    have hret : EnqPc (thr q tid).pc = true := hret.elim (·.2) (fun h => nomatch h.1)
    refine W.update (t' := t) (.step W b hq (qOf_setQ_self ..) (qOf_setQ_not ..) rfl rfl served) hlt
      (set_eq_self ht).symm fun F => ?_
    -- a pending Enqueue that does not return was at `eCasTail` and is at `eAdd`
    have hpend : pendAt s tid → pendAt (setQ s b q) tid := fun h =>
      (pendAt_pEnq (F.wt_self ▸ hpc)).2 (((PendPc_iff _).1 ((pendAt_pEnq (hw ▸ hpc)).1 h)).elim
        (fun e => by rw [qOf_setQ_self, (hct e).2]; rfl) fun e => nomatch hadd e)
    have taskCov : ∀ b', (qOf s b').absQ ≠ [] → Cov pendAt (CovQ b') (setQ s b q) := fun b' hq =>
      (W.taskCov b' hq).mono id (F.pend_mono hpend) (by rw [F.wt_ne h00]; exact id)
    exact
      { role := by rw [if_neg h00.symm, hpc, ProdPc_pEnq]
        sub := by rw [hpc, subOk_pEnq]; exact hret
        subN := hpc ▸ hT.2 _
        flag := W.flag
        flagCov := W.flagCov_keep F ht hpc (hk _) rfl rfl
        -- the queue is as it was, or this step has linked a task and the producer is pending
        taskCov := fun hq => ha.elim (fun ha => taskCov b (ha ▸ hq)) fun ⟨_, hc⟩ =>
          .self h0 ((pendAt_pEnq (F.wt_self ▸ hpc)).2 (by rw [qOf_setQ_self, hc]; rfl))
        taskCovN := taskCov _
        lc := fun h => by rw [hpc] at h; cases b <;> cases h }
  | some x =>
    have hret : (thr q tid).pc = .idle := hret.elim (fun h => nomatch h.1) (·.2)
    have hoth : (thr (qOf s !b) tid).pc = .idle := by simpa [subOk_not b (.inl rfl)] using hT.2 (!b)
    exact W.update (.step W b hq (qOf_setQ_self ..) (qOf_setQ_not ..) rfl rfl served) hlt rfl fun F =>
      { role := by rw [if_neg h00.symm]; rfl
        sub := by rw [hret, subOk_ctl rfl]; rfl
        subN := by rw [hoth, subOk_ctl rfl]; rfl
        flag := W.flag
        flagCov := W.flagCov_keep F ht hpc (hk _) rfl rfl
        taskCov := fun _ => .self h0 (F.pend_self fun _ _ => rfl)
        taskCovN := fun _ => .self h0 (F.pend_self fun _ _ => rfl)
        lc := nofun }

theorem WInv.beginDeq {s : State} (W : WInv s) (b : Bool) {t t' : Thread} {p : Pc} {e m : Bool}
    (ht : s.threads[0]? = some t) (hpc : t.pc = p) (hc : ctl p = true) (hp : t'.pc = lDeq b)
    (lc : b = false → t'.lowCount = 0) :
    WInv (setThread (setQ { s with edge := e, msecZero := m } b (Msq.start (qOf s b) 0 .deq)) 0 t') := by
  have hi := (W.tokOf ht).idle (hpc ▸ hc)
  exact W.update (.start W b (qOf_setQ_self ..) (qOf_setQ_not ..) fun _ => rfl) W.pos rfl fun F =>
    .chores F (hp ▸ CovFlag_lDeq b) (hp ▸ LoopPc_lDeq b)
      (by rw [hp, subOk_lDeq, Msq.start_pc .deq (by rw [W.len]; exact W.pos) (hi b)]; rfl)
      (by rw [hp, hi (!b), subOk_not b (.inr (.inl rfl))]; rfl) W.flag
      fun h => lc (by rw [hp] at h; cases b <;> first | rfl | cases h)

theorem setThread_setThread (s : State) (tid : Nat) (a b : Thread) :
    setThread (setThread s tid a) tid b = setThread s tid b := by
  simp [setThread, List.set_set]

def addDone (s : State) (b : Bool) (v : Nat) : State :=
  { s with executedU := bif b then s.executedU else s.executedU ++ [v],
           executedL := bif b then s.executedL ++ [v] else s.executedL }

/-- When the Dequeue returns, the invariant is stated for the loop at `lStore`: from there
    `WInv.fromStore` and `WInv.reDeq` lead to every pc at which the model goes on -/
theorem WInv.deqStep {s : State} (W : WInv s) (b : Bool) {t : Thread}
    (ht : s.threads[0]? = some t) (hpc : t.pc = lDeq b) {q : Msq.State} {r : Option Msq.Ret}
    (hq : (Msq.step (qOf s b) 0).1 = q) (hr : (Msq.step (qOf s b) 0).2 = r) :
    (∀ v, r = some (.deqSome v) →
      WInv (setThread (addDone (setQ s b q) b v) 0 { t with pc := .lStore })) ∧
    (r = some .deqNone → WInv (setThread (setQ s b q) 0 { t with pc := .lStore })) ∧
    ((∀ v, r ≠ some (.deqSome v)) → r ≠ some .deqNone → WInv (setQ s b q)) := by
  have hw := wt_of_getElem? ht
  have hT := hpc ▸ W.tokOf ht
  have hltQ : 0 < (qOf s b).threads.length := by rw [W.len]; exact W.pos
  have hd : DeqPc (thr (qOf s b) 0).pc = true := subOk_lDeq b _ ▸ hT.2 b
  have hoth : (thr (qOf s !b) 0).pc = .idle := by simpa [subOk_not b (.inr (.inl rfl))] using hT.2 (!b)
  have S := (W.served b).deq (W.inv b) hltQ hd
  rw [hq, hr] at S
  have back : ∀ {s' X}, QStep s s' b 0 q X → s'.threads = s.threads.set 0 { t with pc := .lStore } →
      s'.wakeupCall = s.wakeupCall → (thr q 0).pc = .idle → WInv s' := fun Q' h1 h2 h3 =>
    W.update Q' W.pos h1 fun F =>
      .chores F rfl rfl (by rw [h3, subOk_ctl rfl]; rfl) (by rw [hoth, subOk_ctl rfl]; rfl) (h2 ▸ W.flag)
        fun h => by cases h
  refine ⟨fun v e => ?_, fun e => ?_, fun h1 h2 => ?_⟩
  · subst e
    exact back
      (.step W b hq (qOf_setQ_self ..) (qOf_setQ_not ..) (by cases b <;> rfl) (by cases b <;> rfl) S.2)
      rfl rfl S.1
  · subst e
    exact back (.step W b hq (qOf_setQ_self ..) (qOf_setQ_not ..) rfl rfl S.2) rfl rfl S.1
  · have hrn : r = none := by
      cases r with
      | none => rfl
      | some x => cases x <;> first | exact absurd rfl (h1 _) | exact absurd rfl h2 | cases S
    subst hrn
    exact W.update (t' := t) (.step W b hq (qOf_setQ_self ..) (qOf_setQ_not ..) rfl rfl S.2) W.pos
      (set_eq_self ht).symm fun F => .chores F (hpc ▸ CovFlag_lDeq b) (hpc ▸ LoopPc_lDeq b)
        (by rw [hpc, subOk_lDeq]; exact S.1) (hpc ▸ hT.2 _) W.flag
        fun h => by have := W.lc; rw [hw] at this; exact this h

theorem WInv.loop_set {s : State} {tv : Thread} (W : WInv (setThread s 0 tv)) :
    (setThread s 0 tv).threads[0]? = some tv := by
  have := W.pos; simp only [setThread, List.length_set] at this; simp [setThread, this]

theorem WInv.fromStore {s : State} {tv t' : Thread} (W : WInv (setThread s 0 tv)) (hv : tv.pc = .lStore)
    (hc : Ctl .lStore t'.pc = true) (hp : CovFlag t'.pc = true) : WInv (setThread s 0 t') := by
  have h : WInv (setThread (setThread s 0 tv) 0 t') := W.move W.loop_set hv hc W.flag fun F =>
    ⟨fun _ => F.loop_at hp, fun _ _ => F.loop_at (CovFlag_CovQ hp)⟩
  rwa [setThread_setThread] at h

theorem WInv.reDeq {s : State} {tv t' : Thread} (W : WInv (setThread s 0 tv)) (hv : tv.pc = .lStore)
    (b : Bool) (hp : t'.pc = lDeq b) (lc : b = false → t'.lowCount = 0) :
    WInv (setThread (setQ s b (Msq.start (qOf s b) 0 .deq)) 0 t') := by
  have h : WInv (setThread (setThread (setQ s b (Msq.start (qOf s b) 0 .deq)) 0 tv) 0 t') :=
    W.beginDeq b W.loop_set hv rfl hp lc
  rwa [setThread_setThread] at h

theorem winv_step {s : State} (W : WInv s) (tid : Nat) : WInv (step s tid).1 := by
  cases ht : s.threads[tid]? with
  | none => simp only [step, ht]; exact W
  | some t =>
    have hlt := lt_of_getElem? ht
    have hw := wt_of_getElem? ht
    have hT := W.tokOf ht
    cases hpc : t.pc <;> simp only [step, ht, hpc] <;> rw [hpc] at hT
    case idle | lExit => exact W
    case pLen =>
      split
      · exact W.beginEnq true ht hpc (hT.pos rfl) (hc := rfl) (hnp := fun _ _ => rfl)
          (hk := rfl) (hp' := rfl) _
      · exact W.beginEnq false ht hpc (hT.pos rfl) (hc := rfl) (hnp := fun _ _ => rfl)
          (hk := rfl) (hp' := rfl) _
    case pEnqU => split <;> exact W.enqStep false ht hpc rfl ‹_›
    case pEnqL => split <;> exact W.enqStep true ht hpc rfl ‹_›
    case pCas =>
      have h0 := hT.pos rfl
      split
      · exact W.move ht hpc rfl (.inr rfl) fun F =>
          ⟨fun _ => .self h0 (by rw [writes, F.wt_self]),
            fun _ _ => .self h0 (F.pend_self fun _ _ => rfl)⟩
      · exact W.casFail ht hpc rfl rfl ‹_›
    case pWrite => exact W.move ht hpc rfl W.flag fun _ => ⟨fun _ => .inl rfl, fun _ _ => .inl rfl⟩
    all_goals obtain rfl : tid = 0 := hT.zero rfl
    case lWait =>
      split
      · exact W.beginDeq false ht hpc rfl rfl fun _ => rfl
      · split
        · -- `msecZero` occurs in no field
          exact ⟨W.reach, W.len, W.pos, W.tok, W.flag, W.flagCov, W.taskCov, W.served, W.lc⟩
        · exact W
    case lDeqU =>
      obtain ⟨h1, h2, h3⟩ := W.deqStep false ht hpc rfl rfl
      have hlc : t.lowCount = 0 := hw ▸ W.lc (by rw [hw, hpc])
      split
      · have V := h1 _ ‹_›
        split
        · exact V.fromStore rfl rfl rfl
        · exact V.reDeq rfl false rfl fun _ => hlc
      · have V := h2 ‹_›
        split
        · exact V.reDeq rfl true rfl nofun
        · exact V.fromStore rfl rfl rfl
      · exact h3 ‹_› ‹_›
    case lDeqL =>
      obtain ⟨h1, h2, h3⟩ := W.deqStep true ht hpc rfl rfl
      split
      · have V := h1 _ ‹_›
        split
        · exact V.fromStore rfl rfl rfl
        · split
          · exact V.reDeq rfl true rfl nofun
          · exact V.fromStore rfl rfl rfl
      · exact (h2 ‹_›).fromStore rfl rfl rfl
      · exact h3 ‹_› ‹_›
    case lStore =>
      exact W.move ht hpc rfl (.inl rfl) fun F => ⟨(fun h => by cases h), fun _ _ => F.loop_at rfl⟩
    case lEmptyL =>
      split
      · exact W.emptyCheck ht hpc rfl rfl fun _ => .inl rfl
      · exact W.emptyCheck ht hpc rfl rfl fun
          | false => .inl rfl
          | true => .inr (.inl ⟨Classical.not_not.1 ‹_›, nofun⟩)
    case lEmptyU =>
      split
      · exact W.emptyCheck ht hpc rfl rfl fun _ => .inl rfl
      · exact W.emptyCheck ht hpc rfl rfl fun
          | false => .inr (.inl ⟨Classical.not_not.1 ‹_›, nofun⟩)
          | true => .inr (.inr rfl)
    case lCas =>
      split
      · exact W.move ht hpc rfl (.inr rfl) fun F =>
          ⟨fun _ => F.loop_at rfl, fun _ _ => F.loop_at rfl⟩
      · exact W.casFail ht hpc rfl rfl ‹_›
    case lWrite => exact W.move ht hpc rfl W.flag fun _ => ⟨fun _ => .inl rfl, fun _ _ => .inl rfl⟩

theorem winv_start {s : State} (W : WInv s) (tid task : Nat) (lowPrio : Bool) :
    WInv (start s tid task lowPrio) := by
  unfold start
  split
  · exact W
  · rename_i h0
    split
    · exact W
    · rename_i t ht
      split
      · exact W
      · rename_i hpc
        have hpc : t.pc = .idle := by simpa using hpc
        have h0 : 0 < tid := Nat.pos_of_ne_zero h0
        have hw := wt_of_getElem? ht
        split
        · have h00 := Nat.ne_of_lt h0
          exact W.move ht hpc rfl W.flag fun F =>
            ⟨W.flagCov_keep F ht hpc rfl rfl rfl,
            fun b hq => (W.taskCov b hq).mono id
              (F.pend_mono fun h => absurd h (not_pendAt ht (hpc ▸ fun _ _ => rfl)))
              (by rw [F.wt_ne h00]; exact id)⟩
        · exact W.beginEnq false ht hpc h0 (hc := rfl) (hnp := fun _ _ => rfl) (hk := rfl) (hp' := rfl) _

theorem winv_init (n : Nat) (th : Int) : WInv (init n th) := by
  have hw0 : wt (init n th) 0 = { pc := .lWait } := rfl
  have hwj : ∀ j, 0 < j → wt (init n th) j = {} := by
    intro j hj
    obtain ⟨k, rfl⟩ : ∃ k, j = k + 1 := ⟨j - 1, by omega⟩
    simp [wt, init, List.getD_eq_getElem?_getD, List.getElem?_replicate]
    split <;> rfl
  have hq : ∀ b j, thr (qOf (init n th) b) j = {} := by
    intro b j
    cases b <;> simp [qOf, init, thr, Msq.init, List.getD_eq_getElem?_getD, List.getElem?_replicate] <;>
      split <;> rfl
  exact
    { reach := fun b => ⟨n + 1, [], by cases b <;> rfl⟩
      len := fun b => by cases b <;> simp [qOf, init, Msq.init]
      pos := by simp [init]
      tok := fun j => by
        simp only [hq]
        by_cases hj : j = 0
        · subst hj; rw [hw0]; exact ⟨rfl, fun b => by cases b <;> rfl⟩
        · rw [hwj j (by omega)]; exact ⟨by rw [if_neg hj]; rfl, fun b => by cases b <;> rfl⟩
      flag := .inl rfl
      flagCov := fun h => by cases h
      taskCov := fun b h => by cases b <;> exact absurd rfl h
      served := fun b => by unfold Served; rw [hq]; cases b <;> rfl
      lc := by rw [hw0]; nofun }

theorem winv_runEvs : ∀ (evs : List Ev) (s : State), WInv s → WInv (runEvs s evs)
  | [], _, hs => hs
  | .start tid v l :: es, _, hs => winv_runEvs es _ (winv_start hs tid v l)
  | .step tid :: es, _, hs => winv_runEvs es _ (winv_step hs tid)

theorem winv_reachable {s : State} (h : Reachable s) : WInv s := by
  obtain ⟨n, th, evs, rfl⟩ := h
  exact winv_runEvs evs _ (winv_init n th)

end Gnet.Proofs.Wake
