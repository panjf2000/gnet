/-
  One step inside a Dequeue, by what it returns (`deq_step`), for safety (`Served.deq`) and for "never stuck":
  a Dequeue running alone terminates (`solo_deq`) by a measure that every non-returning step decreases.
-/
import Gnet.Model.Msq
import Gnet.Proofs.WakeMsq
namespace Gnet.Proofs.Msq
open Gnet.Msq

/-- the shared tail pointer lags behind the last node (by one node, see `InvW.lag`) -/
def lagT (q : State) : Nat := if nextOf q q.tail = none then 0 else 1

theorem lagT_setThread (q : State) (tid : Nat) (th : Thread) : lagT (setThread q tid th) = lagT q := rfl

theorem lagT_upd (q : State) (hd : Nat) (len : Int) (thrs : List Thread) (a e d : List Nat) :
    lagT { q with head := hd, length := len, threads := thrs, absQ := a, enqLog := e, deqLog := d } =
      lagT q := rfl

def rankD : Pc → Nat
  | .dLoadHead => 7 | .dLoadTail => 6 | .dLoadNext => 5 | .dReloadHead => 4
  | .dHelpTail => 3 | .dCasHead => 2 | .dSub => 1
  | _ => 0

/-- the thread's snapshots are out of date (its current attempt will fail and restart) -/
def staleD (q : State) (th : Thread) : Bool :=
  match th.pc with
  | .dLoadTail => th.head != q.head
  | .dLoadNext | .dReloadHead | .dCasHead => th.head != q.head || th.tail != q.tail
  | .dHelpTail => th.head != q.head || th.tail != q.tail || th.next == none
  | _ => false

/-- 20 > 7 = max `rankD`: an attempt found stale restarts at rank 7 and is not stale then; 100 > 27:
    a tail advance pays for everything else -/
def muD (q : State) (th : Thread) : Nat :=
  100 * lagT q + (if staleD q th = true then 20 else 0) + rankD th.pc

theorem muD_lt_of_lag {q q' : State} {th th' : Thread} (h : lagT q' < lagT q) : muD q' th' < muD q th := by
  have : rankD th'.pc ≤ 7 := by cases th'.pc <;> decide
  have : ∀ b : Bool, (if b = true then 20 else 0) ≤ 20 := by decide
  have := this (staleD q' th')
  unfold muD; omega

def EarlyD : Pc → Bool
  | .dLoadHead | .dLoadTail | .dLoadNext => true
  | _ => false

/-- the Dequeue in progress is bound to return a task when run alone: it has unlinked one, or the queue
    is non-empty and it has not read (or will read again) `head.next` of an empty queue -/
def GoodT (q : State) (th : Thread) : Prop :=
  th.pc = .dSub ∨ (q.absQ ≠ [] ∧ (EarlyD th.pc = true ∨ th.ghostSawEmpty = false))

section
attribute [local simp] thr_setThread DeqPc muD staleD rankD lagT_setThread lagT_upd EarlyD

theorem deq_step {q : State} {tid : Nat} (I : Inv q)
    (hlt : tid < q.threads.length) (hd : DeqPc (thr q tid).pc = true) :
    let th := thr q tid; let q' := (step q tid).1; let th' := thr q' tid
    match (step q tid).2 with
    | some (.deqSome v) => th.pc = .dSub ∧ v = th.task ∧ th'.pc = .idle ∧ q'.deqLog = q.deqLog
    | some .deqNone =>
      th.pc ≠ .dSub ∧ th'.pc = .idle ∧ q'.deqLog = q.deqLog ∧ q'.absQ = q.absQ ∧ ¬ GoodT q th
    | none =>
      th.pc ≠ .dSub ∧ DeqPc th'.pc = true ∧ muD q' th' < muD q th ∧ (GoodT q th → GoodT q' th') ∧
      (th'.pc = .dSub ∧ q'.deqLog = q.deqLog ++ [th'.task] ∨
        th'.pc ≠ .dSub ∧ q'.deqLog = q.deqLog ∧ q'.absQ = q.absQ)
    | _ => False := by
  intro th q' th'
  subst th q' th'
  have hth := getElem?_of_lt hlt
  have hI := I
  obtain ⟨c, h, t, I⟩ := I
  have hT := I.snap tid _ hth
  generalize thr q tid = th at *
  unfold GoodT
  cases hpc : th.pc <;> simp [hpc] at hd <;> simp only [step, hth, hpc]
  case dCasHead =>
    simp only [Snap, hpc] at hT
    obtain ⟨ph, nx, hph, hlt', hn, hnx, htask⟩ := hT
    simp only [hn]
    by_cases heq : q.head = th.head
    · simp only [if_pos heq]
      obtain rfl : ph = h := nodup_idx I.linked.nodup hph (heq ▸ I.hd)
      -- the task read at `dReloadHead` is the head of the abstract queue
      have : q.absQ.take 1 = [th.task] := by
        rw [List.take_one, I.absQ_head hnx, htask]; rfl
      simp [hlt, hpc, this]; omega
    · simp +contextual [if_neg heq, hlt, hpc, Ne.symm heq]
  case dHelpTail =>
    simp only [Snap, hpc] at hT
    obtain ⟨p, hp, hp1⟩ := hT
    cases hn : th.next with
    | none => simp +contextual [hlt, hpc, hn]
    | some nx =>
      simp only
      by_cases heq : q.tail = th.tail
      · rw [if_pos heq]
        obtain rfl : p = t := nodup_idx I.linked.nodup hp (heq ▸ I.tl)
        have h1 := hp1 nx hn
        -- the tail lagged; `nx` is the last node, so it does not any more
        have hb : lagT q = 1 := by unfold lagT; rw [I.next I.tl, h1]; rfl
        have ha : ∀ th', lagT (setThread { q with tail := nx } tid th') = 0 := fun _ => by
          show (if nextOf q nx = none then 0 else 1) = 0
          rw [I.next h1, List.getElem?_eq_none_iff.2 (by have := I.lag; omega)]; rfl
        exact ⟨by simp, by simp [hlt], muD_lt_of_lag (by rw [ha, hb]; decide), by simp +contextual [hlt],
          by simp [hlt]⟩
      · rw [if_neg heq]
        simp +contextual [hlt, hpc, Ne.symm heq]
  case dReloadHead =>
    have hre := hI.nil_next hth hpc
    clear hT I
    by_cases h1 : th.head = q.head
    · by_cases h2 : th.head = th.tail <;> cases hn : th.next <;>
        simp +contextual [← h1, h2, hn, hlt, hpc] at hre ⊢
      -- "empty": by `Inv.nil_next` the thread saw the abstract queue empty, so it was not `GoodT`
      exact fun _ => hre
    · simp +contextual [h1, hlt, hpc]
  all_goals (repeat' split)
  all_goals simp +contextual [hlt, hpc]
end

theorem Served.deq {tid : Nat} {q : State} {X : List Nat} (h : Served tid q X) (I : Inv q)
    (hlt : tid < q.threads.length) (hd : DeqPc (thr q tid).pc = true) :
    match (step q tid).2 with
    | some (.deqSome v) => (thr (step q tid).1 tid).pc = .idle ∧ Served tid (step q tid).1 (X ++ [v])
    | some .deqNone => (thr (step q tid).1 tid).pc = .idle ∧ Served tid (step q tid).1 X
    | none => DeqPc (thr (step q tid).1 tid).pc = true ∧ Served tid (step q tid).1 X
    | _ => False := by
  have hs := deq_step I hlt hd
  unfold Served inflight at h ⊢
  split at hs <;> rename_i hr <;> try simp only [hr]
  · obtain ⟨a, rfl, b, d⟩ := hs; simp [a, b, d] at h ⊢; exact h
  · obtain ⟨a, b, d, _⟩ := hs; simp [a, b, d] at h ⊢; exact h
  · obtain ⟨a, b, _, _, hq⟩ := hs
    refine ⟨b, ?_⟩
    rcases hq with ⟨c, d⟩ | ⟨c, d, _⟩
    · simp [a, c, d] at h ⊢; exact h
    · simp [a, c, d] at h ⊢; exact h
  · exact hs.elim

inductive SoloDeq (tid : Nat) : State → State → Prop where
  | refl (q : State) : SoloDeq tid q q
  | step {q qk : State} : (step q tid).2 = none → SoloDeq tid (step q tid).1 qk → SoloDeq tid q qk

theorem solo_deq {tid : Nat} : ∀ (n : Nat) (q : State), Inv q → tid < q.threads.length →
    DeqPc (thr q tid).pc = true → muD q (thr q tid) ≤ n →
    ∃ qk, SoloDeq tid q qk ∧
      ((∃ v, (step qk tid).2 = some (.deqSome v)) ∨
       ((step qk tid).2 = some .deqNone ∧ (step qk tid).1.absQ = q.absQ ∧ ¬ GoodT q (thr q tid))) := by
  intro n
  induction n with
  | zero =>
    intro q I hlt hd hm
    exfalso
    revert hd hm
    unfold muD
    cases (thr q tid).pc <;> simp [DeqPc, rankD]
  | succ n ih =>
    intro q I hlt hd hm
    have hs := deq_step I hlt hd
    split at hs
    · exact ⟨q, .refl q, .inl ⟨_, ‹_›⟩⟩
    · exact ⟨q, .refl q, .inr ⟨‹_›, hs.2.2.2.1, hs.2.2.2.2⟩⟩
    · rename_i hr
      obtain ⟨_, hd', hmu, hg, hq⟩ := hs
      obtain ⟨qk, hsolo, hres⟩ :=
        ih (step q tid).1 (inv_step I tid) (by rw [(only_step q tid).len]; exact hlt) hd' (by omega)
      refine ⟨qk, .step hr hsolo, hres.imp_right fun ⟨h1, h2, h3⟩ => ⟨h1, ?_, fun g => h3 (hg g)⟩⟩
      -- the step was no linearisation point: a thread at `dSub` is bound to succeed
      rcases hq with ⟨hsub, _⟩ | ⟨_, _, ha⟩
      · exact absurd (.inl hsub) h3
      · rw [h2, ha]
    · exact hs.elim

end Gnet.Proofs.Msq
