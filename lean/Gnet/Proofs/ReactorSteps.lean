/-
  What every work of the acceptor guarantees (`Specs`), and `Specs` at `fuel + 1` from `Specs` at
  `fuel`: one level of `exec` for each of the 22 works. Inside a step each line applies the rule of the
  primitive at the head of the program and binds the new state and its `Good` again as `s` and `hG`,
  shadowing the earlier ones.
-/
import Gnet.Proofs.ReactorCond
namespace Gnet.Reactor
open Gnet.Proofs.ReactorL

structure Specs (A B : Prop) (fuel : Nat) : Prop where
  accept : ∀ ko l s r s', Ok (exec fuel (.accept l)) s r s' →
    Good A B ko s l (Lv A B ko) → Good A B ko s' l (Lv A B ko)
  register0 : ∀ ko c s r s', Ok (exec fuel (.register0 c)) s r s' →
    Good A B ko s c (Raw0 A B) → Good A B ko s' c (Lv A B 2)
  open_ : ∀ ko c s r s', Ok (exec fuel (.open c)) s r s' →
    Good A B ko s c (Raw1 A B) → Good A B ko s' c (Lv A B 2)
  connOpen : ∀ ko c buf k s r s', 1 ≤ k → Ok (exec fuel (.connOpen c buf)) s r s' →
    Good A B ko s c (Snd A B k buf) →
    Good A B ko s' c (fun x => if r.code = .nil then Lv A B k x else (x.opened = true → x.registered = true))
  processIO : ∀ ko c mask s r s', Ok (exec fuel (.processIO c mask)) s r s' →
    Good A B ko s c (Lv A B 2) → Good A B ko s' c (AfterRead A B r)
  elRead : ∀ ko c s r s', Ok (exec fuel (.elRead c)) s r s' →
    Good A B ko s c (Lv A B 2) → Good A B ko s' c (AfterRead A B r)
  elReadLoop : ∀ ko c recv s r s', Ok (exec fuel (.elReadLoop c recv)) s r s' →
    Good A B ko s c (Lv A B 2) → Good A B ko s' c (AfterRead A B r)
  elWrite : ∀ ko c k s r s', Ok (exec fuel (.elWrite c)) s r s' →
    Good A B ko s c (Lv A B k) → Good A B ko s' c (Lv A B k)
  elWriteLoop : ∀ ko c sent k s r s', Ok (exec fuel (.elWriteLoop c sent)) s r s' →
    Good A B ko s c (Lv A B k) → Good A B ko s' c (Lv A B k)
  close : ∀ ko c e Ψ s r s', Ok (exec fuel (.close c e)) s r s' →
    Good A B ko s c Ψ → Good A B ko s' c (fun x => x.opened = false ∨ (Ψ x ∧ x.registered = false))
  closeFlush : ∀ ko c s r s', Ok (exec fuel (.closeFlush c)) s r s' →
    Good A B ko s c (Lv A B 0) → Good A B ko s' c (Lv A B 0)
  handleAction : ∀ ko c a Ψ s r s', Ok (exec fuel (.handleAction c a)) s r s' →
    Good A B ko s c Ψ → Good A B ko s' c (fun x => x.opened = false ∨ Ψ x)
  callback : ∀ ko kind c k s r s', (kind = "open" → 1 ≤ k) → Ok (exec fuel (.callback kind c)) s r s' →
    Good A B ko s c (Lv A B k) → Good A B ko s' c (Lv A B k)
  connWrite : ∀ ko c d k s r s', Ok (exec fuel (.connWrite c d)) s r s' →
    Good A B ko s c (Lv A B k) → Good A B ko s' c (Lv A B k)
  connWriteLoop : ∀ ko c d total k s r s', Ok (exec fuel (.connWriteLoop c d total)) s r s' →
    Good A B ko s c (SndE A B k d) → Good A B ko s' c (Lv A B k)
  connWritev : ∀ ko c segs k s r s', Ok (exec fuel (.connWritev c segs)) s r s' →
    Good A B ko s c (Lv A B k) → Good A B ko s' c (Lv A B k)
  connWritevLoop : ∀ ko c segs total k s r s', Ok (exec fuel (.connWritevLoop c segs total)) s r s' →
    Good A B ko s c (SndE A B k segs.flatten) → Good A B ko s' c (Lv A B k)
  flush : ∀ ko c k s r s', Ok (exec fuel (.flush c)) s r s' →
    Good A B ko s c (Lv A B k) → Good A B ko s' c (Lv A B k)
  wake : ∀ ko c k s r s', Ok (exec fuel (.wake c)) s r s' →
    Good A B ko s c (Lv A B k) → Good A B ko s' c (Lv A B k)
  readUDP : ∀ ko l s r s', Ok (exec fuel (.readUDP l)) s r s' →
    Good A B ko s l (Lv A B ko) → Good A B ko s' l (Lv A B ko)
  udpCallback : ∀ ko l src s r s', Ok (exec fuel (.udpCallback l src)) s r s' →
    Good A B ko s l (Lv A B 0) → Good A B ko s' l (Lv A B ko)
  closeConns : ∀ ko s r s', Ok (exec fuel .closeConns) s r s' →
    Good A B ko s "" (Lv A B ko) → Good A B ko s' "" (Lv A B ko)

variable {A B : Prop} {ko : Nat}

theorem Specs.close_lv {fuel : Nat} (ih : Specs A B fuel) {c : String} {e : Bool} {k : Nat} {s : RState}
    (hG : Good A B ko s c (Lv A B k)) :
    wp (exec fuel (.close c e)) (fun _ s' => Good A B ko s' c (Lv A B k)) s :=
  wp_intro fun _ _ h => (ih.close _ _ _ _ _ _ _ h hG).mono fun _ hx => hx.elim Lv.closed And.left

theorem Specs.action_lv {fuel : Nat} (ih : Specs A B fuel) {c : String} {a k : Nat} {s : RState}
    (hG : Good A B ko s c (Lv A B k)) :
    wp (exec fuel (.handleAction c a)) (fun _ s' => Good A B ko s' c (Lv A B k)) s :=
  wp_intro fun _ _ h => (ih.handleAction _ _ _ _ _ _ _ h hG).mono fun _ hx => hx.elim Lv.closed id

theorem Specs.close_closed {fuel : Nat} (ih : Specs A B fuel) {c : String} {e : Bool} {Ψ : Conn → Prop}
    {s : RState} (hG : Good A B ko s c Ψ) (hreg : ∀ x, Ψ x → x.opened = true → x.registered = true) :
    wp (exec fuel (.close c e)) (fun _ s' => Good A B ko s' c (fun x => x.opened = false)) s :=
  wp_intro fun _ _ h => (ih.close _ _ _ _ _ _ _ h hG).mono fun x hx => by
    cases ho : x.opened
    · rfl
    · obtain h | ⟨hΨ, hun⟩ := hx
      · rw [h] at ho; cases ho
      · rw [hreg x hΨ ho] at hun; cases hun

/-- `1 ≤ k` for OnOpen: when conn.open fails on the bytes OnOpen returned, `close` has to find the connection
    registered to leave it closed (`close_closed`). -/
theorem Specs.wp_callback {fuel : Nat} (ih : Specs A B fuel) {kind c : String} {k : Nat} {s : RState}
    (hk : kind = "open" → 1 ≤ k) (hG : Good A B ko s c (Lv A B k)) :
    wp (exec fuel (.callback kind c)) (fun _ s' => Good A B ko s' c (Lv A B k)) s :=
  wp_intro fun _ _ h => ih.callback _ _ _ _ _ _ _ hk h hG

/-- arming the write event, a fragment the model repeats inline -/
theorem Good.wp_armWrite {β : Type} {s : RState} {c : String} {Ψ : Conn → Prop} {Q : β → RState → Prop}
    {k : String → M β} {m w : String} (hG : Good A B ko s c Ψ)
    (H : ∀ e s1, Good A B ko s1 c Ψ → wp (k e) Q s1) :
    wp (do noteSys c
           match ← pop with
           | .sysCtl "ModReadWrite" c' e => do
             if c' != c then throw m
             k e
           | t => mismatch w t) Q s := by
  refine hG.wp_sys fun t s _ hG => ?_
  msplit
  exact wp_guard fun _ => H _ _ hG

theorem wp_armOrClose {fuel : Nat} (ih : Specs A B fuel) {c : String} {k : Nat} {s : RState} {r1 r2 : Ret}
    {m w : String} (hG : Good A B ko s c (Lv A B k)) :
    wp (do noteSys c
           match ← pop with
           | .sysCtl "ModReadWrite" c' e => do
             if c' != c then throw m
             if e != "nil" then
               let _ ← exec fuel (.close c false)
               pure r1
             else pure r2
           | t => mismatch w t) (fun _ s' => Good A B ko s' c (Lv A B k)) s :=
  hG.wp_armWrite fun _ _ hG =>
    wp_if (fun _ => wp_seq (ih.close_lv hG) fun _ _ hG => wp_ret hG) fun _ => wp_ret hG

/-- what the `open` callback ends with, after the bytes OnOpen returned (if any) are written: a fragment the
    model has once for `some buf` and once for `none` -/
theorem wp_armThenAct {fuel : Nat} (ih : Specs A B fuel) {c : String} {a k : Nat} {s : RState} {b : Bool}
    {m w : String} (hG : Good A B ko s c (Lv A B k)) :
    wp (do let x ← getConn c
           if !x.outbound.isEmpty && !b then
             noteSys c
             match ← pop with
             | .sysCtl "ModReadWrite" c' e => do
               if c' != c then throw m
               if e != "nil" then exec fuel (.close c false) else exec fuel (.handleAction c a)
             | t => mismatch w t
           else exec fuel (.handleAction c a)) (fun _ s' => Good A B ko s' c (Lv A B k)) s :=
  hG.wp_getConn fun _ _ _ => wp_if
    (fun _ => hG.wp_armWrite fun _ _ hG => wp_if (fun _ => ih.close_lv hG) fun _ => ih.action_lv hG)
    fun _ => ih.action_lv hG

theorem Specs.step {fuel : Nat} (ih : Specs A B fuel) : Specs A B (fuel + 1) where
  handleAction := by
    intro ko c a Ψ s
    refine wp_spec fun hG => wp_get_bind ?_
    refine wp_if (fun _ => wp_intro fun _ _ h => ?_) fun _ =>
      wp_if (fun _ => wp_ret ?_) fun _ => wp_ret ?_
    · exact (ih.close _ _ _ _ _ _ _ h hG).mono fun _ hx => hx.imp_right And.left
    · exact hG.mono fun _ => Or.inr
    · exact hG.mono fun _ => Or.inr
  close := by
    intro ko c e Ψ s
    refine wp_spec fun hG => wp_get_bind ?_
    refine hG.wp_enter fun _ s hG => ?_
    refine wp_guard fun _ => ?_
    refine hG.wp_getConn fun x hx hG => ?_
    refine wp_if (fun hc => wp_ret (hG.mono ?_)) fun _ => ?_
    · rintro y rfl
      cases ho : y.opened
      · exact .inl rfl
      · exact .inr ⟨hx, by simpa [ho] using hc⟩
    refine hG.wp_modConn (Lv A B 0) (fun _ _ => Lv.zero) fun s hG => ?_
    refine hG.wp_pop fun t s _ hG => ?_
    msplit
    refine wp_guard fun _ => ?_
    refine wp_guard fun _ => ?_
    refine hG.wp_modConn (Lv A B 0) (fun _ _ => Lv.zero) fun s hG => ?_
    refine wp_seq (ih.wp_callback (by simp) hG) fun _ s hG => ?_
    refine wp_seq (wp_use (ih.closeFlush _ _ _) hG) fun _ s hG => ?_
    -- release(): from here on the connection is not opened, which is all the postcondition asks
    refine hG.wp_modConn (fun x => x.opened = false) (fun _ _ => rfl) fun s hG => ?_
    refine hG.wp_noteSys fun s hG => ?_
    refine wp_seq (R := fun _ s => Good A B ko s c (fun x => x.opened = false)) ?_ fun e0 s hG => ?_
    · refine hG.wp_pop fun t s _ hG => ?_
      msplit
      exact wp_guard fun _ => wp_ret hG
    refine hG.wp_noteSys fun s hG => ?_
    refine wp_seq (R := fun _ s => Good A B ko s c (fun x => x.opened = false)) ?_ fun e1 s hG => ?_
    · refine hG.wp_pop fun t s _ hG => ?_
      msplit
      exact wp_guard fun _ => wp_ret hG
    refine hG.wp_modConn (fun x => x.opened = false) (fun _ hx => hx) fun s hG => ?_
    refine wp_if (fun _ => wp_ret (hG.mono fun _ => Or.inl)) fun _ => wp_intro fun _ _ h => ?_
    exact (ih.handleAction _ _ _ _ _ _ _ h hG).mono fun _ hx => .inl (hx.elim id id)
  closeFlush := by
    intro ko c s
    refine wp_spec fun hG => wp_get_bind ?_
    refine hG.wp_getConn fun x _ hG => ?_
    replace hG := hG.mono (Ψ' := Lv A B 0) fun _ _ => Lv.zero
    refine wp_if (fun _ => wp_ret hG) fun _ => ?_
    refine hG.wp_sys fun t s _ hG => ?_
    msplit
    refine wp_guard fun _ => ?_
    refine wp_guard fun _ => ?_
    refine wp_if (fun _ => wp_ret hG) fun _ => ?_
    refine hG.wp_modConn (Lv A B 0) (fun _ _ => Lv.zero) fun s hG => ?_
    exact wp_use (ih.closeFlush _ _ _) hG
  elWrite := by
    intro ko c k s
    refine wp_spec fun hG => wp_get_bind ?_
    refine hG.wp_enter fun _ s hG => ?_
    exact hG.wp_getConn fun _ _ _ =>
      wp_if (fun _ => wp_ret hG) fun _ => wp_use (ih.elWriteLoop _ _ _ _ _) hG
  elWriteLoop := by
    intro ko c sent k s
    refine wp_spec fun hG => wp_get_bind ?_
    refine hG.wp_getConn fun x hx hG => ?_
    refine hG.wp_noteSys fun s hG => ?_
    -- the offered bytes `d` are a prefix of the buffered ones, and the kernel took `n ≤ |d|` of them
    refine wp_seq (R := fun ret s => Good A B ko s c (fun y => y = x) ∧
        ret.1 = x.outbound.take ret.1.length ∧ ret.2.1 ≤ (ret.1.length : Int)) ?_ ?_
    · refine hG.wp_pop fun t s ht hG => ?_
      split
      · rename_i c' d n err
        refine wp_guard fun _ => ?_
        refine wp_guard fun hc => ?_
        refine wp_ret ⟨hG, ?_, by simpa [Tok.sane] using ht⟩
        rw [show d = x.outbound by simpa using hc]
        exact List.take_length.symm
      · refine wp_guard fun _ => ?_
        refine wp_guard fun hc => ?_
        exact wp_ret ⟨hG, offered_prefix hc, by simpa [Tok.sane] using ht⟩
      · exact wp_dead
    rintro ⟨d, n, err⟩ s ⟨hG, hd, hn⟩
    dsimp only at hd hn
    refine hG.wp_modConn (Lv A B k) ?_ fun s hG => ?_
    · rintro _ rfl
      refine Lv.write hx hd ?_
      show (if n > 0 then n.toNat else 0) ≤ d.length
      split <;> omega
    refine wp_if (fun _ => wp_ret hG) fun _ => ?_
    refine wp_if (fun _ => ih.close_lv hG) fun _ => ?_
    refine hG.wp_getConn fun _ _ _ => ?_
    refine wp_if (fun _ => wp_use (ih.elWriteLoop _ _ _ _ _) hG) fun _ => ?_
    refine wp_if (fun _ => ?_) fun _ =>
      wp_if (fun _ => hG.wp_modify rfl fun hG => wp_ret hG) fun _ =>
        wp_ret hG
    refine hG.wp_sys fun t s _ hG => ?_
    msplit
    refine wp_guard fun _ => ?_
    exact wp_if (fun _ => ih.close_lv hG) fun _ => wp_ret hG
  flush := by
    intro ko c k s
    refine wp_spec fun hG => wp_get_bind ?_
    refine wp_seq (wp_use (ih.elWrite _ _ _ _) hG) fun _ s hG => ?_
    refine wp_if (fun _ => wp_ret hG) fun _ => ?_
    exact hG.wp_getConn fun _ _ _ =>
      wp_if (fun _ => wp_armOrClose ih hG) fun _ => wp_ret hG
  connWrite := by
    intro ko c d k s
    refine wp_spec fun hG => wp_get_bind ?_
    refine hG.wp_getConn fun x hx hG => ?_
    refine wp_if (fun _ => wp_ret (hG.unpin hx)) fun _ =>
      wp_if (fun _ => ?_) fun hne => ?_
    · refine hG.wp_modConn (Lv A B k) ?_ fun s hG => ?_
      · rintro _ rfl; exact Lv.append_both hx
      exact wp_ret hG
    · refine hG.wp_modConn (SndE A B k d) ?_ fun s hG => ?_
      · rintro _ rfl; exact SndE.start hx (by simpa using hne)
      exact wp_use (ih.connWriteLoop _ _ _ _ _ _) hG
  connWriteLoop := by
    intro ko c d total k s
    refine wp_spec fun hG => wp_get_bind ?_
    refine hG.wp_sys fun t s _ hG => ?_
    msplit
    -- the last `_`: the `sane` fact of the token depends on `t`, so the `split` puts it after the fields
    rename_i c' d' n err _
    refine wp_guard fun _ => ?_
    refine wp_if
      (fun _ => wp_if (fun _ => ?_) fun _ => ?_)
      fun _ => ?_
    · -- EAGAIN: all of `d` is buffered
      refine hG.wp_modConn (Lv A B k) (fun _ => SndE.buffer) fun s hG => ?_
      exact wp_if (fun _ => wp_armOrClose ih hG) fun _ => wp_ret hG
    · refine hG.wp_modConn (Lv A B k) (fun _ => SndE.untake) fun s hG => ?_
      exact wp_seq (ih.close_lv hG) fun _ _ hG => wp_ret hG
    · refine hG.wp_modConn (SndE A B k (d.drop n.toNat)) ?_ fun s hG => ?_
      · exact fun _ hx => hx.partial (List.take_append_drop _ _)
      refine wp_if (fun _ => wp_use (ih.connWriteLoop _ _ _ _ _ _) hG) fun _ =>
        wp_if (fun _ => ?_) fun hne => wp_ret (hG.mono fun _ => SndE.done (by simpa using hne))
      refine hG.wp_modConn (Lv A B k) (fun _ => SndE.buffer) fun s hG => ?_
      exact wp_armOrClose ih hG
  connWritev := by
    intro ko c segs k s
    refine wp_spec fun hG => wp_get_bind ?_
    refine hG.wp_getConn fun x hx hG => ?_
    refine wp_if (fun _ => wp_ret (hG.unpin hx)) fun _ =>
      wp_if (fun _ => ?_) fun hne => ?_
    · refine hG.wp_modConn (Lv A B k) ?_ fun s hG => ?_
      · rintro _ rfl; exact Lv.append_both hx
      exact wp_ret hG
    · refine hG.wp_modConn (SndE A B k segs.flatten) ?_ fun s hG => ?_
      · rintro _ rfl; exact SndE.start hx (by simpa using hne)
      exact wp_use (ih.connWritevLoop _ _ _ _ _ _) hG
  connWritevLoop := by
    intro ko c segs total k s
    refine wp_spec fun hG => wp_get_bind ?_
    refine hG.wp_sys fun t s ht hG => ?_
    msplit
    rename_i c' ns d' n err
    refine wp_guard fun hc => ?_
    refine wp_if
      (fun _ => wp_if (fun _ => ?_) fun _ => ?_)
      fun _ => ?_
    · refine hG.wp_modConn (Lv A B k) (fun _ => SndE.buffer) fun s hG => ?_
      exact wp_if (fun _ => wp_armOrClose ih hG) fun _ => wp_ret hG
    · refine hG.wp_modConn (Lv A B k) (fun _ => SndE.untake) fun s hG => ?_
      exact wp_seq (ih.close_lv hG) fun _ _ hG => wp_ret hG
    · -- the guard `hc`: the offered bytes `d'` are those of the first `iovMax` segments
      simp only [Bool.or_eq_true, bne_iff_ne, ne_eq, not_or, Decidable.not_not] at hc
      have hn : n.toNat ≤ d'.length := by
        have : n ≤ (d'.length : Int) := by simpa [Tok.sane] using ht
        omega
      refine hG.wp_modConn (SndE A B k (dropSegs segs n.toNat).flatten) ?_ fun s hG => ?_
      · exact fun _ hx => hx.partial (writev_split hc.1.2 hn)
      refine wp_if (fun _ => wp_use (ih.connWritevLoop _ _ _ _ _ _) hG) fun _ =>
        wp_if (fun _ => ?_) fun hne => wp_ret (hG.mono fun _ => SndE.done ?_)
      · refine hG.wp_modConn (Lv A B k) (fun _ => SndE.buffer) fun s hG => ?_
        exact wp_armOrClose ih hG
      · apply List.eq_nil_of_length_eq_zero
        rw [List.length_flatten]
        simpa using hne
  connOpen := by
    -- `1 ≤ k` stands before `Ok` here and in `callback`: it is taken first, and `r s'` go back for `wp_spec`
    intro ko c buf k s r s' hk
    revert r s'
    refine wp_spec fun hG => wp_get_bind ?_
    refine hG.wp_getConn fun x hx hG => ?_
    refine wp_if (fun _ => ?_) fun hempty => ?_
    · refine hG.wp_modConn (Lv A B k) ?_ fun s hG => ?_
      · rintro _ rfl; exact Snd.buffer hx
      exact wp_ret (hG.mono fun _ hx => by simpa using hx)
    replace hG : Good A B ko s c (SndE A B k buf) := hG.unpin (Snd.toE hx (by simpa using hempty))
    refine hG.wp_sys fun t s _ hG => ?_
    msplit
    rename_i c' d' n err _
    refine wp_guard fun _ => ?_
    refine wp_if
      (fun _ => wp_if (fun _ => ?_) fun _ => wp_ret (hG.mono fun _ hx => ?_))
      fun _ => ?_
    · refine hG.wp_modConn (Lv A B k) (fun _ => SndE.buffer) fun s hG => ?_
      exact wp_ret (hG.mono fun _ hx => by simpa using hx)
    · -- the write failed: the result is not `nil`
      exact (if_neg nofun).mpr (Snd.reg hk hx.toSnd)
    · refine hG.wp_modConn (SndE A B k (buf.drop n.toNat)) ?_ fun s hG => ?_
      · exact fun _ hx => hx.partial (List.take_append_drop _ _)
      refine wp_if (fun hne => wp_ret (hG.mono fun _ hx => ?_)) fun _ =>
        wp_intro fun _ _ h => ih.connOpen _ _ _ _ _ _ _ hk h (hG.mono fun _ => SndE.toSnd)
      simpa using SndE.done (by simpa using hne) hx
  callback := by
    intro ko kind c k s r s' hk
    revert r s'
    refine wp_spec fun hG => wp_get_bind ?_
    refine hG.wp_pop fun t s _ hG => ?_
    split
    · -- `ret`: the handler returns
      refine wp_if (fun hkind => ?_) fun _ => wp_ret hG
      refine hG.wp_getConn fun _ _ _ =>
        wp_if (fun _ => wp_ret hG) fun _ => ?_
      split
      · -- `some buf`, OnOpen returned bytes: conn.open writes them; if that fails the connection is closed
        rename_i buf _
        have hk1 : 1 ≤ k := hk (by simpa using hkind)
        refine hG.wp_modConn (Snd A B k buf) (fun _ => Snd.start) fun s hG => ?_
        refine wp_seq (wp_intro fun _ _ h => ih.connOpen _ _ _ k _ _ _ hk1 h hG) fun _ s hG => ?_
        refine wp_if (fun hcode => ?_) fun hcode => ?_
        · refine wp_mono (ih.close_closed hG fun x hx => ?_) fun _ _ hG => hG.mono fun _ => Lv.closed
          rwa [if_neg (by simpa using hcode)] at hx
        · refine wp_armThenAct ih (hG.mono fun x hx => ?_)
          rwa [if_pos (by simpa using hcode)] at hx
      · exact wp_armThenAct ih hG
    · -- `hop`: one call of the handler on the connection
      refine hG.wp_getConn fun x _ _ => ?_
      -- `jp`: the continuation after the `match` on `op`, the rest of the handler
      extract_lets all consume argN jp
      have fin : ∀ s, Good A B ko s c (Lv A B k) →
          wp (jp ()) (fun _ s' => Good A B ko s' c (Lv A B k)) s :=
        fun _ hG => ih.wp_callback hk hG
      have eat : ∀ j s, Good A B ko s c (Lv A B k) →
          wp (consume j >>= jp) (fun _ s' => Good A B ko s' c (Lv A B k)) s :=
        fun j _ hG => hG.wp_modConn _ (fun _ => Lv.consume) fin
      split
      · exact hG.wp_checkHop (eat _)                                                      -- read
      · exact wp_if (fun _ => hG.wp_checkHop fin) fun _ => hG.wp_checkHop (eat _)           -- next
      · exact wp_if (fun _ => hG.wp_checkHop fin) fun _ => hG.wp_checkHop fin               -- peek
      · exact hG.wp_checkHop (eat _)                                                      -- discard
      · exact hG.wp_checkHop fin                                                          -- inbuf
      · exact hG.wp_checkHop fin                                                          -- outbuf
      · exact hG.wp_popRes fun _ _ hG => wp_guard fun _ => eat _ _ hG                       -- writeto
      · -- readfrom
        refine hG.wp_popRes fun _ s hG => wp_get_bind (hG.wp_modify rfl fun hG => ?_)
        exact hG.wp_modConn (Lv A B k) (fun _ => Lv.append_both) fin
      · -- readbulk
        refine hG.wp_popRes fun _ s hG => wp_get_bind (hG.wp_modify rfl fun hG => ?_)
        exact hG.wp_modConn (Lv A B k) (fun _ => Lv.append_both) fin
      · exact wp_seq (wp_use (ih.connWrite _ _ _ _ _) hG) fun _ _ hG => hG.wp_checkHop fin    -- write
      · exact wp_seq (wp_use (ih.connWritev _ _ _ _ _) hG) fun _ _ hG => hG.wp_checkHop fin   -- writev
      · exact wp_seq (wp_use (ih.flush _ _ _ _) hG) fun _ _ hG => hG.wp_checkHop fin          -- flush
      · exact hG.wp_modify rfl fun hG => hG.wp_checkHop fin                               -- asyncwrite
      · exact hG.wp_modify rfl fun hG => hG.wp_checkHop fin                               -- asyncwritev
      · exact hG.wp_modify rfl fun hG => hG.wp_checkHop fin                               -- wake
      · exact hG.wp_modify rfl fun hG => hG.wp_checkHop fin                               -- close
      · exact wp_seq (ih.close_lv hG) fun _ _ hG => hG.wp_checkHop fin                    -- elclose
      · exact hG.wp_popRes fun _ _ hG => fin _ hG                                         -- addr
      · -- dup
        refine wp_guard fun _ => ?_
        refine hG.wp_sys fun t s _ hG => ?_
        msplit
        refine wp_guard fun _ => ?_
        exact hG.wp_checkHop fin
      · exact wp_dead
    · exact wp_dead
  elRead := by
    intro ko c s
    refine wp_spec fun hG => wp_get_bind ?_
    refine hG.wp_enter fun _ s hG => ?_
    exact hG.wp_getConn fun _ _ _ => wp_if (fun _ => wp_ret hG.rested) fun _ =>
      wp_use (ih.elReadLoop _ _ _ _) hG
  elReadLoop := by
    intro ko c recv s
    refine wp_spec fun hG => wp_get_bind ?_
    refine hG.wp_sys fun t s _ hG => ?_
    msplit
    refine wp_guard fun _ => ?_
    refine wp_if
      (fun _ => wp_if (fun _ => wp_ret hG.rested) fun _ => ?_)
      fun _ => ?_
    · exact wp_mono (ih.close_lv hG) fun _ _ hG => hG.rested
    refine hG.wp_modConn (Lv A B 1) (fun _ => Lv.deliver) fun s hG => ?_
    refine hG.wp_getConn fun _ _ _ => ?_
    refine hG.wp_pop fun t s _ hG => ?_
    -- `jp`: what follows the `match` on the token, the handler and its action
    extract_lets jp
    msplit
    refine wp_guard fun _ => ?_
    refine wp_guard fun _ => ?_
    refine hG.wp_modConn (Lv A B 1) (fun _ => Lv.congr) fun s hG => ?_
    refine wp_seq (ih.wp_callback (by simp) hG) fun _ s hG => ?_
    refine wp_if (fun _ => ?_) fun _ =>
      wp_if (fun _ => wp_ret ?_) fun _ => ?_
    · exact wp_mono (ih.close_closed hG fun _ => Lv.reg (Nat.le_refl 1)) fun _ _ hG =>
        hG.mono fun _ hx => AfterRead.of_two (Lv.closed hx)
    · -- Shutdown: the rest of the read stays in `buffer`
      exact hG.mono fun _ hx => ⟨hx, fun hne => absurd rfl hne⟩
    refine hG.wp_getConn fun x hx hG => ?_
    refine wp_if (fun hop => wp_ret (hG.mono ?_)) fun _ => ?_
    · rintro y rfl
      exact AfterRead.of_two (Lv.closed (by simpa using hop))
    refine hG.wp_modConn (Lv A B 2) ?_ fun s hG => ?_
    · rintro _ rfl; exact Lv.handover (Nat.le_refl 1) hx
    refine hG.wp_getConn fun _ _ _ => ?_
    refine wp_if (fun _ => wp_use (ih.elReadLoop _ _ _ _) hG) fun _ =>
      wp_if (fun _ => hG.wp_modify rfl fun hG => wp_ret hG.rested) fun _ =>
        wp_ret hG.rested
  processIO := by
    intro ko c mask s
    refine wp_spec fun hG => wp_get_bind ?_
    have hclose : ∀ {s}, Good A B ko s c (Lv A B 2) →
        wp (exec fuel (.close c false)) (fun r s' => Good A B ko s' c (AfterRead A B r)) s :=
      fun hG => wp_mono (ih.close_lv hG) fun _ _ hG => hG.rested
    have hread : ∀ {s}, Good A B ko s c (Lv A B 2) →
        wp (exec fuel (.elRead c)) (fun r s' => Good A B ko s' c (AfterRead A B r)) s :=
      fun hG => wp_use (ih.elRead _ _ _) hG
    refine wp_if (fun _ => ?_) fun _ => ?_
    · refine hG.wp_modConn (Lv A B 2) (fun _ => Lv.release) fun s hG => ?_
      exact hclose hG
    -- `jp1`: what follows the write event; `jp2`: what follows the read event
    extract_lets jp2 jp1
    have cont2 : ∀ r2 s, Good A B ko s c (AfterRead A B r2) →
        wp (jp2 r2) (fun r s' => Good A B ko s' c (AfterRead A B r)) s := by
      intro r2 s hG
      refine wp_if (fun _ => wp_ret hG) fun hcode => ?_
      replace hG : Good A B ko s c (Lv A B 2) :=
        hG.mono fun _ hx => hx.2 (by rw [show r2.code = .nil by simpa using hcode]; decide)
      -- the peer has closed its end
      refine hG.wp_getConn fun _ _ _ => wp_if
        (fun _ => wp_if (fun _ => hclose hG) fun _ => ?_)
        fun _ => wp_ret hG.rested
      refine hG.wp_modConn (Lv A B 2) (fun _ => Lv.congr) fun s hG => ?_
      exact hread hG
    have cont1 : ∀ r1 s, Good A B ko s c (Lv A B 2) →
        wp (jp1 r1) (fun r s' => Good A B ko s' c (AfterRead A B r)) s := fun r1 s hG =>
      wp_if (fun _ => wp_ret hG.rested) fun _ =>
        wp_if (fun _ => wp_seq (hread hG) cont2) fun _ =>
          wp_pure_bind (cont2 _ _ hG.rested)
    exact wp_if (fun _ => wp_seq (wp_use (ih.elWrite _ _ _ _) hG) cont1) fun _ =>
      wp_pure_bind (cont1 _ _ hG)
  wake := by
    intro ko c k s
    refine wp_spec fun hG => wp_get_bind ?_
    refine hG.wp_enter fun _ s hG => ?_
    refine hG.wp_getConn fun _ _ _ =>
      wp_if (fun _ => wp_ret hG) fun _ => ?_
    refine hG.wp_pop fun t s _ hG => ?_
    msplit
    refine wp_guard fun _ => ?_
    refine wp_guard fun _ => ?_
    refine hG.wp_modConn (Lv A B k) (fun _ => Lv.congr) fun s hG => ?_
    refine wp_seq (ih.wp_callback (by simp) hG) fun _ s hG => ?_
    exact ih.action_lv hG
  open_ := by
    intro ko c s
    refine wp_spec fun hG => wp_get_bind ?_
    refine hG.wp_enter fun _ s hG => ?_
    refine hG.wp_modConn (Lv A B 2) (fun _ => Raw1.open) fun s hG => ?_
    refine hG.wp_pop fun t s _ hG => ?_
    msplit
    refine wp_guard fun _ => ?_
    refine hG.wp_modConn (Lv A B 2) (fun _ => Lv.congr) fun s hG => ?_
    exact ih.wp_callback (by simp) hG
  register0 := by
    intro ko c s
    refine wp_spec fun hG => wp_get_bind ?_
    refine hG.wp_enter fun _ s hG => ?_
    refine hG.wp_sys fun t s _ hG => ?_
    msplit
    refine wp_guard fun _ => ?_
    refine wp_if (fun _ => ?_) fun _ => ?_
    · refine hG.wp_sys fun t s _ hG => ?_
      msplit
      refine wp_guard fun _ => ?_
      refine hG.wp_modConn (Lv A B 2) (fun _ _ => Lv.closed rfl) fun s hG => ?_
      exact wp_ret hG
    · refine hG.wp_modConn (Raw1 A B) (fun _ hx => ⟨rfl, hx⟩) fun s hG => ?_
      exact wp_use (ih.open_ _ _ _) hG
  accept := by
    intro ko l s
    refine wp_spec fun hG => wp_get_bind ?_
    refine hG.wp_enter fun _ s hG => ?_
    refine hG.wp_pop fun t s _ hG => ?_
    split
    · refine wp_guard fun _ => ?_
      refine wp_if (fun _ => wp_get_bind ?_) fun _ =>
        wp_if (fun _ => wp_ret hG) fun _ => wp_ret hG
      refine wp_guard fun hc => ?_
      refine wp_modify_bind (wp_intro fun _ _ h => ?_)
      exact ((ih.register0 _ _ _ _ _ h (hG.accept (Ψ := Raw0 A B) _ hc Raw0.fresh)).mono
        fun _ => Lv.of_two).retarget l
    · refine wp_guard fun _ => ?_
      exact wp_use (ih.readUDP _ _ _) hG
    · exact wp_dead
  readUDP := by
    intro ko l s
    refine wp_spec fun hG => wp_get_bind ?_
    refine hG.wp_pop fun t s _ hG => ?_
    msplit
    rename_i l' n err src data _
    refine wp_guard fun _ => ?_
    refine wp_if (fun _ => wp_ret hG) fun _ => wp_modify_bind ?_
    replace hG := hG.udp { opened := true, buffer := data, delivered := data }
    refine hG.wp_pop fun t s _ hG => ?_
    msplit
    refine wp_guard fun _ => ?_
    refine wp_guard fun _ => ?_
    refine wp_guard fun _ => ?_
    exact wp_use (ih.udpCallback _ _ _ _) hG
  closeConns := by
    intro ko s
    refine wp_spec fun hG => wp_get_bind (wp_peek_bind ?_)
    split
    · rename_i c arg _
      exact wp_seq (ih.close_lv (hG.retarget c)) fun _ s hG =>
        wp_use (ih.closeConns _ _) (hG.retarget "")
    · exact wp_ret hG
  udpCallback := by
    intro ko l src s
    refine wp_spec fun hG => wp_get_bind ?_
    refine hG.wp_pop fun t s _ hG => ?_
    split
    · refine wp_modify_bind ?_
      exact wp_if (fun _ => wp_ret hG.udp_done) fun _ => wp_ret hG.udp_done
    · refine hG.wp_getConn fun x _ _ => ?_
      extract_lets all argN jp
      have fin : ∀ s, Good A B ko s l (Lv A B 0) →
          wp (jp ()) (fun _ s' => Good A B ko s' l (Lv A B ko)) s :=
        fun _ hG => wp_use (ih.udpCallback _ _ _ _) hG
      have eat : ∀ {g : Conn → Conn} s, Good A B ko s l (Lv A B 0) →
          wp (modConn l g >>= jp) (fun _ s' => Good A B ko s' l (Lv A B ko)) s :=
        fun _ hG => hG.wp_modConn _ (fun _ _ => Lv.zero) fin
      split
      · exact hG.wp_checkHop eat                                                  -- read
      · exact wp_if (fun _ => hG.wp_checkHop fin) fun _ => hG.wp_checkHop eat       -- next
      · exact wp_if (fun _ => hG.wp_checkHop fin) fun _ => hG.wp_checkHop fin       -- peek
      · exact hG.wp_checkHop eat                                                  -- discard
      · exact hG.wp_checkHop fin                                                  -- inbuf
      · -- write
        refine hG.wp_pop fun t s _ hG => ?_
        msplit
        refine wp_guard fun _ => ?_
        exact hG.wp_checkHop fin
      · exact wp_dead
    · exact wp_dead

end Gnet.Reactor
