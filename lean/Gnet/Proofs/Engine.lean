/-
  The shutdown system of Model/Engine.lean: what holds in every reachable state is read off the invariant
  `Inv`, what a single step can do to one field is found by going through the branches of `step`
  (`fun_cases`, or `cases` on the step); termination is by a measure of the work left.
-/
import Gnet.Model.Engine
import Gnet.Proofs.EngineInv
namespace Gnet.Proofs.Engine
open Gnet.Engine

theorem run_returns_after_flag (s : State) (h : Reachable s) (hr : s.stopPc = .returned) :
    s.inShutdown = true :=
  (inv_reachable h).ctl.flag.trans (decide_eq_true hr)

theorem shutdown_complete (s : State) (h : Reachable s) (hs : s.inShutdown = true) :
    (∀ l ∈ s.loops, l.st = .exited ∧ l.conns = []) ∧ s.tickerAlive = false ∧
    s.trace.count .shutdown = 1 ∧ openIn s.trace = [] := by
  have hi := inv_reachable h
  have hr : s.stopPc = .returned := of_decide_eq_true (hi.ctl.flag ▸ hs)
  have hall := hi.ctl.allEx (hr ▸ rfl)
  have hloops : ∀ l ∈ s.loops, l.st = .exited ∧ l.conns = [] :=
    fun l hl => ⟨hall.1 l hl, hi.ctl.exEmpty l hl (hall.1 l hl)⟩
  refine ⟨hloops, hall.2, hi.ctl.shut.trans (hr ▸ rfl), (hi.conn.perm.trans ?_).eq_nil⟩
  rw [List.flatMap_eq_nil_iff.2 fun l hl => (hloops l hl).2]

theorem callbacks_once (s : State) (h : Reachable s) :
    s.trace.count .shutdown ≤ 1 ∧
    (∀ c, s.trace.count (.open c) ≤ 1 ∧ s.trace.count (.close c) ≤ s.trace.count (.open c)) ∧
    (openIn s.trace).Perm (s.loops.flatMap (·.conns)) :=
  have hi := inv_reachable h
  ⟨hi.ctl.shut ▸ Bool.toNat_le _,
    fun c => ⟨hi.conn.ok.once c, hi.conn.ok.bal c ▸ Nat.le_add_right ..⟩,
    hi.conn.perm⟩

theorem request_is_final (s : State) (a : Step) (hc : s.ctxCancelled = true) :
    (step s a).ctxCancelled = true := by
  fun_cases step s a <;> first | exact hc | rfl

theorem flag_only_at_end (s : State) (a : Step) (h0 : s.inShutdown = false)
    (h1 : (step s a).inShutdown = true) : a = .stopper ∧ s.stopPc = .setFlag := by
  revert h1
  fun_cases step s a <;> intro h1 <;> first | cases h0.symm.trans h1 | exact ⟨rfl, ‹_›⟩

/-- once everything has exited only the stopper's `OnShutdown` is left to append to the trace -/
theorem trace_fixed {s : State} (hex : ∀ x ∈ s.loops, x.st = .exited) (ht : s.tickerAlive = false)
    (hp : s.stopPc ≠ .onShutdown) (a : Step) : (step s a).trace = s.trace := by
  cases a with
  | accept l | traffic l c | peerClose l c | actionShutdown l | runSentinel l | closeOne l | loopExit l =>
    dsimp only [step]
    split
    · next x hx => simp [hex x (List.mem_of_getElem? hx)]   -- the guard asks for a loop that has not exited
    · rfl
  | tick | tickerExit => simp [step, ht]
  | requestStop => rfl
  | stopper =>
    dsimp only [step]
    -- `waitCtx` and `waitGroup` are guarded
    split <;> first | rfl | exact absurd ‹_› hp | (split <;> rfl)

theorem final (s : State) (h : Reachable s) (hr : s.stopPc = .returned) (a : Step) :
    (step s a).trace = s.trace :=
  have hall := (inv_reachable h).ctl.allEx (hr ▸ rfl)
  trace_fixed hall.1 hall.2 (hr ▸ nofun) a

theorem action_shutdown_requests (s : State) (l : Nat) (x : Loop) (hx : s.loops[l]? = some x)
    (hc : x.st = .closing) (he : x.conns = []) : (step s (.loopExit l)).ctxCancelled = true := by
  simp [step, hx, hc, he]

/-- leave Polling, one step per connection, exit -/
def loopWork (x : Loop) : Nat :=
  match x.st with
  | .running => 2 + x.conns.length
  | .closing => 1 + x.conns.length
  | .exited => 0

def work (s : State) : Nat :=
  pcWork s.stopPc + s.tickerAlive.toNat + (s.loops.map loopWork).sum

/-- stated like `InvCtl.setLoop`, for the same reason -/
theorem work_setLoop {s : State} {l : Nat} {x y : Loop} (hx : s.loops[l]? = some x)
    (h : loopWork y < loopWork x) {tr : List Cb} {cc : Bool} :
    work { setLoop s l y with trace := tr, ctxCancelled := cc } < work s := by
  have ⟨rest, h1, h2⟩ := perm_set hx
  have e1 := (h1.map loopWork).sum_nat
  have e2 := ((h2 y).map loopWork).sum_nat
  simp only [List.map_cons, List.sum_cons] at e1 e2
  simp only [work, setLoop, e1, e2]
  omega

/-- the steps the engine takes by itself: no peer, user or callback takes part -/
def own : Step → Bool
  | .stopper | .runSentinel _ | .closeOne _ | .loopExit _ | .tickerExit => true
  | _ => false

theorem progress {s : State} (h : InvCtl s) (hc : s.ctxCancelled = true) (hr : s.stopPc ≠ .returned) :
    ∃ a, own a ∧ work (step s a) < work s := by
  cases hp : s.stopPc with
  | returned => exact absurd hp hr
  | waitGroup =>
    by_cases he : allExited s = true
    · exact ⟨.stopper, rfl, by simp [step, hp, he, work, pcWork]⟩
    by_cases ht : s.tickerAlive = true
    · exact ⟨.tickerExit, rfl, by simp [step, ht, hc, work]⟩
    have ⟨x, hx, hne⟩ : ∃ x ∈ s.loops, x.st ≠ .exited := by simpa [allExited_iff, ht] using he
    have ⟨l, hl⟩ := List.getElem?_of_mem hx
    -- the shutdown task is in the loop's queue: if still polling it can run it
    have hsent := h.sent (hp ▸ rfl) x hx
    cases hst : x.st with
    | exited => exact absurd hst hne
    | running =>
      refine ⟨.runSentinel l, rfl, ?_⟩
      simp only [step, hl, hst, hsent, and_self, if_true]
      exact work_setLoop hl (by simp [loopWork, hst])
    | closing =>
      cases hcs : x.conns with
      | nil =>
        refine ⟨.loopExit l, rfl, ?_⟩
        simp only [step, hl, hst, hcs, and_self, if_true]
        exact work_setLoop hl (by simp [loopWork, hst, hcs])
      | cons c rest =>
        refine ⟨.closeOne l, rfl, ?_⟩
        simp only [step, hl, hst, hcs, if_true]
        exact work_setLoop hl (by simp [loopWork, hst, hcs])
  | postSentinels =>
    have : ∀ x : Loop, loopWork { x with sentinel := true } = loopWork x := fun _ => rfl
    exact ⟨.stopper, rfl, by simp [step, hp, work, pcWork, Function.comp_def, this]⟩
  | _ => exact ⟨.stopper, rfl, by simp [step, hp, hc, work, pcWork]⟩

/-- With `actionShutdown` in place of `runSentinel` there would be such steps from any state, reachable or
not: it is the restriction to `own` steps that needs the shutdown tasks to have been posted. -/
theorem terminates (s : State) (h : Inv s) (hc : s.ctxCancelled = true) :
    ∃ steps, steps.all own ∧ (run s steps).stopPc = .returned ∧ steps.length ≤ work s :=
  if hr : s.stopPc = .returned then ⟨[], rfl, hr, Nat.zero_le _⟩ else
    have ⟨a, ho, ha⟩ := progress h.ctl hc hr
    have ⟨steps, h0, h1, h2⟩ := terminates (step s a) (inv_step h a) (request_is_final s a hc)
    ⟨a :: steps, by simp [ho, h0], h1, Nat.lt_of_le_of_lt h2 ha⟩
termination_by work s

theorem work_le (s : State) : work s ≤ 7 + 2 * s.loops.length + (s.loops.map (·.conns.length)).sum := by
  have h1 : ∀ ls : List Loop, (ls.map loopWork).sum ≤ 2 * ls.length + (ls.map (·.conns.length)).sum := by
    intro ls
    induction ls with
    | nil => simp
    | cons a t ih =>
      have : loopWork a ≤ 2 + a.conns.length := by unfold loopWork; split <;> omega
      simp only [List.map_cons, List.sum_cons, List.length_cons]
      omega
  have h2 : pcWork s.stopPc ≤ 6 := by cases s.stopPc <;> simp [pcWork]
  have h3 := Bool.toNat_le s.tickerAlive
  have := h1 s.loops
  unfold work
  omega

theorem shutdown_terminates (s : State) (h : Reachable s) (hc : s.ctxCancelled = true) :
    ∃ steps, (run s steps).stopPc = .returned ∧
      steps.length ≤ 8 + 3 * s.loops.length + (s.loops.map (·.conns.length)).sum :=
  have ⟨steps, _, h1, h2⟩ := terminates s (inv_reachable h) hc
  ⟨steps, h1, by have := work_le s; omega⟩

/-- `CountConnections` has no error to return -/
theorem api_of_invalid {ph : Phase} (h : validate ph ≠ .nil) (c : Call) :
    api ph c = if c = .count then .minusOne else validate ph := by
  cases c <;> simp [api, h]

theorem api_never (c : Call) : api .never c = (if c = .count then .minusOne else .empty) :=
  api_of_invalid (ph := .never) nofun c

end Gnet.Proofs.Engine
