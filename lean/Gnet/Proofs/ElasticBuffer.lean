/-
  C10, second layer: `elastic.Buffer` (`Elastic`) = ring wrapper + linked list, content
  `ring ++ list`: readers take from the ring first, then from the list what is still wanted.
  The models and specifications each define their `maxInt32`; they are identified by `rfl`.
-/
import Gnet.Proofs.ElasticRing
import Gnet.Proofs.LinkedList
set_option linter.unusedSectionVars false
namespace Gnet.Proofs.Elastic
open Gnet LinkedList
variable {α : Type} [Inhabited α]

theorem take_take_append (a b : List α) (k : Nat) : (a.take k ++ b).take k = (a ++ b).take k := by
  rw [List.take_append, List.take_append, List.take_take, Nat.min_self, List.length_take]
  congr 2; omega

/-- the ring is written only while the list is empty: that keeps `ring ++ list` in queue order.
    `hc` is what `split` leaves of the guard of `Write`, `Writev` and `ReadFrom`. -/
theorem elastic_list_abs_nil {m : Elastic α}
    (hc : ¬ ((!m.list.isEmpty || decide (m.ring.buffered ≥ m.maxStatic)) = true)) :
    m.list.abs = [] := by
  rw [Bool.or_eq_true, not_or, Bool.not_eq_true', Bool.not_eq_false] at hc
  exact abs_of_isEmpty _ hc.1

theorem elastic_counters (m : Elastic α) (h : m.WF) :
    m.buffered = (m.abs.length : Int) ∧ (m.isEmpty = true ↔ m.buffered = 0) := by
  have ⟨c1, c2, _⟩ := counters m.ring h.ring
  have ⟨d1, _, d3⟩ := LinkedList.counters m.list h.list
  simp only [Elastic.isEmpty, Elastic.buffered, Elastic.abs, List.length_append, Bool.and_eq_true,
    c2, d3, c1, d1]
  omega

theorem elastic_split_write (rg : ERing α) (l : LL α) (p : List α) (w : Nat) (hr : rg.WF)
    (hl : l.WF) (he : l.abs = []) :
    (rg.write (p.take w)).WF ∧ (l.pushBackCopy (p.drop w)).WF ∧
    (rg.write (p.take w)).abs ++ (l.pushBackCopy (p.drop w)).abs = rg.abs ++ p := by
  have ⟨w1, a1⟩ := write_spec rg (p.take w) hr
  have hp := pushBackCopy_spec l (p.drop w)
  exact ⟨w1, hp.wf hl,
    by rw [a1, hp.abs, he, List.nil_append, List.append_assoc, List.take_append_drop]⟩

theorem elastic_write_spec (m : Elastic α) (p : List α) (h : m.WF) :
    (m.write p).WF ∧ (m.write p).abs = m.abs ++ p := by
  unfold Elastic.write
  split
  · have hp := pushBackCopy_spec m.list p
    exact ⟨⟨h.ring, hp.wf h.list⟩, by simp only [Elastic.abs, hp.abs, List.append_assoc]⟩
  · next hc =>
    have hl := elastic_list_abs_nil hc
    split
    · have ⟨w1, w2, a⟩ := elastic_split_write m.ring m.list p m.ring.available h.ring h.list hl
      exact ⟨⟨w1, w2⟩, by simp only [Elastic.abs, a, hl, List.append_nil]⟩
    · have ⟨w1, a1⟩ := write_spec m.ring p h.ring
      exact ⟨⟨w1, h.list⟩, by simp only [Elastic.abs, a1, hl, List.append_nil]⟩

theorem elastic_writevLoop_spec (bs : List (List α)) (rg : ERing α) (l : LL α) (w : Nat)
    (hr : rg.WF) (hl : l.WF) (he : l.abs = []) :
    (Elastic.writevLoop rg l w bs).1.WF ∧ (Elastic.writevLoop rg l w bs).2.1.WF ∧
    (Elastic.writevLoop rg l w bs).1.abs ++ (Elastic.writevLoop rg l w bs).2.1.abs ++
      (Elastic.writevLoop rg l w bs).2.2.flatten = rg.abs ++ bs.flatten := by
  induction bs generalizing rg w with
  | nil => simp [Elastic.writevLoop, hr, hl, he]
  | cons b rest ih =>
    unfold Elastic.writevLoop
    split
    · have ⟨w1, w2, a⟩ := elastic_split_write rg l b w hr hl he
      exact ⟨w1, w2, by rw [a, List.flatten_cons, List.append_assoc]⟩
    · have ⟨w1, a1⟩ := write_spec rg b hr
      have ⟨i1, i2, i3⟩ := ih (rg.write b) (w - b.length) w1
      exact ⟨i1, i2, by rw [i3, a1, List.flatten_cons, List.append_assoc]⟩

theorem elastic_writev_spec (m : Elastic α) (bs : List (List α)) (h : m.WF) :
    (m.writev bs).1.WF ∧ (m.writev bs).1.abs = m.abs ++ bs.flatten ∧
    (m.writev bs).2 = bs.flatten.length := by
  simp only [Elastic.writev, ← List.length_flatten]
  split
  · have hp := foldl_pushBackCopy_spec bs m.list
    exact ⟨⟨h.ring, hp.wf h.list⟩, by simp only [Elastic.abs, hp.abs, List.append_assoc], rfl⟩
  · next hc =>
    have hl := elastic_list_abs_nil hc
    generalize (if m.ring.len < m.maxStatic then m.maxStatic - m.ring.buffered
      else m.ring.available) = w
    have ⟨i1, i2, i3⟩ := elastic_writevLoop_spec bs m.ring m.list w h.ring h.list hl
    have hp := foldl_pushBackCopy_spec (Elastic.writevLoop m.ring m.list w bs).2.2
      (Elastic.writevLoop m.ring m.list w bs).2.1
    refine ⟨⟨i1, hp.wf i2⟩, ?_, rfl⟩
    simp only [Elastic.abs, hp.abs, ← List.append_assoc, i3, hl, List.append_nil]

theorem elastic_readFrom_spec (gen : Nat → α) (m : Elastic α) (pos : Nat) (sc : List RStep)
    (h : m.WF) :
    (m.readFrom gen pos sc).1.WF ∧
    (m.readFrom gen pos sc).2.2.2 = pos + (m.readFrom gen pos sc).2.1 ∧
    (m.readFrom gen pos sc).1.abs = m.abs ++ Fifo.fresh gen pos (m.readFrom gen pos sc).2.1 ∧
    (m.readFrom gen pos sc).2.2.1 ≠ .eof := by
  simp only [Elastic.readFrom]
  split
  · have ⟨l1, l2, l3, l4⟩ := LinkedList.readFrom_spec gen m.list pos 0 sc
    rw [Nat.zero_add] at l2
    exact ⟨⟨h.ring, l1.wf h.list⟩,
      by simp only [l2, l4],
      by simp only [Elastic.abs, l1.abs, l2, List.append_assoc],
      by simp only [l3]; exact rfErr_ne_eof sc⟩
  · next hc =>
    have ⟨r1, r2, r3, r4⟩ := readFrom_spec gen m.ring pos sc h.ring
    exact ⟨⟨r1, h.list⟩, r2,
      by simp only [Elastic.abs, r3, elastic_list_abs_nil hc, List.append_nil], r4⟩

theorem elastic_read_spec (m : Elastic α) (n : Nat) (h : m.WF) :
    (m.read n).1.WF ∧ (m.read n).1.abs = m.abs.drop n ∧ (m.read n).2.1 = m.abs.take n ∧
    (0 < n → n ≤ m.abs.length → (m.read n).2.2 = .nil) := by
  have ⟨r1, r2, r3, r4⟩ := read_spec m.ring n h.ring
  have ⟨l1, l2, l3⟩ := LinkedList.read_spec m.list (n - m.ring.abs.length)
  simp only [Elastic.read, Elastic.abs, r3, List.length_take, List.length_append, List.take_append,
    List.drop_append, ← Nat.sub_eq_sub_min]
  split
  · next hd =>
    have hle : n ≤ m.ring.abs.length := hd ▸ Nat.min_le_right ..
    rw [Nat.sub_eq_zero_of_le hle]
    refine ⟨⟨r1, h.list⟩,
      by simp only [r2, List.drop_zero],
      by simp only [List.take_zero, List.append_nil],
      fun h0 _ => r4.resolve_right fun hc => ?_⟩
    rw [hc] at hle; exact Nat.not_le_of_gt h0 hle
  · next hd =>
    refine ⟨⟨r1, l1.wf h.list⟩,
      by simp only [r2, l1.abs],
      by simp only [l2],
      fun _ hn => l3.resolve_right fun hc => ?_⟩
    rw [hc.1, List.length_nil] at hn; have := hc.2; omega

theorem elastic_discard_spec (m : Elastic α) (n : Int) (h : m.WF) :
    (m.discard n).1.WF ∧ (m.discard n).1.abs = m.abs.drop n.toNat ∧
    (m.discard n).2.1 = min n.toNat m.abs.length := by
  have ⟨r1, r2, r3, _⟩ := discard_spec m.ring n h.ring
  have ⟨l1, l2⟩ := LinkedList.discard_spec m.list (n - (min n.toNat m.ring.abs.length : Nat))
  rw [Int.toNat_sub'] at l1 l2
  -- the model's test `n ≤ d`, `d` what the ring discarded, becomes `n.toNat ≤ m.ring.abs.length`
  simp only [Elastic.discard, Elastic.abs, r3, ← Int.toNat_le, Nat.le_min, Nat.le_refl, true_and,
    List.length_append, List.drop_append]
  generalize n.toNat = k at *
  split
  · next hd =>
    rw [Nat.sub_eq_zero_of_le hd, Nat.min_eq_left hd, Nat.min_eq_left (Nat.le_add_right_of_le hd)]
    exact ⟨⟨r1, h.list⟩, by simp only [r2, List.drop_zero], rfl⟩
  · next hd =>
    have hd := Nat.le_of_not_le hd
    rw [Nat.min_eq_right hd] at l1 l2 ⊢
    refine ⟨⟨r1, l1.wf h.list⟩, by simp only [r2, l1.abs], ?_⟩
    simp only [l2, ← Nat.add_min_add_left, Nat.add_sub_cancel' hd]

theorem elastic_writeTo_spec (m : Elastic α) (sc : List WStep) (h : m.WF) :
    (m.writeTo sc).1.WF ∧
    (m.writeTo sc).1.abs = m.abs.drop (m.writeTo sc).2.1 ∧
    (m.writeTo sc).2.2.2 = m.abs.take (m.writeTo sc).2.1 ∧
    (m.writeTo sc).2.1 ≤ m.abs.length ∧
    ((m.writeTo sc).2.2.1 = .nil → (m.writeTo sc).2.1 = m.abs.length) := by
  simp only [Elastic.writeTo, Elastic.abs, List.length_append]
  -- the ring part, skipped when the ring is empty
  generalize hw : (if m.ring.isEmpty = true then (m.ring, 0, Err.nil, [], sc)
    else m.ring.writeTo sc) = w
  have hr : w.1.WF ∧ w.1.abs = m.ring.abs.drop w.2.1 ∧ w.2.2.2.1 = m.ring.abs.take w.2.1 ∧
      w.2.1 ≤ m.ring.abs.length ∧ (w.2.2.1 = .nil → w.2.1 = m.ring.abs.length) := by
    subst hw
    split
    · next he =>
      have ⟨c1, c2, _⟩ := counters m.ring h.ring
      exact ⟨h.ring, rfl, rfl, Nat.zero_le _, fun _ => (c1 ▸ c2.mp he).symm⟩
    · exact writeTo_spec m.ring sc h.ring
  obtain ⟨rg, n, e, sink, rest⟩ := w
  obtain ⟨r1, r2, r3, r4, r5⟩ := hr
  simp only at r1 r2 r3 r4 r5 ⊢
  split
  · next he =>
    exact ⟨⟨r1, h.list⟩,
      by simp [r2, List.drop_append_of_le_length r4],
      by simp [r3, List.take_append_of_le_length r4],
      by dsimp only; omega,
      fun hc => absurd hc he⟩
  · next he =>
    have hn := r5 (Classical.not_not.mp he)
    subst hn
    have hl := LinkedList.writeTo_spec m.list rest
    simp only [LL.writeTo] at hl
    generalize LL.writeToLoop m.list.segs m.list.size m.list.bytes rest 0 [] = v at hl ⊢
    obtain ⟨l', n2, e2, sink2⟩ := v
    obtain ⟨l1, l2, l3, l4⟩ := hl
    simp only at l1 l2 l3 l4 ⊢
    exact ⟨⟨r1, l2.wf h.list⟩,
      by simp [r2, l2.abs],
      by simp [r3, l3, List.take_length_add_append],
      by omega,
      fun hc => by rw [l4 hc]⟩

theorem elastic_reset_spec (m : Elastic α) (ms : Int) (h : m.WF) :
    (m.reset ms).WF ∧ (m.reset ms).abs = [] :=
  have ⟨r1, r2⟩ := reset_spec m.ring h.ring
  ⟨⟨r1, wf_nil⟩, by simp only [Elastic.reset, Elastic.abs, r2]; rfl⟩

theorem elastic_release_spec (m : Elastic α) : m.release.WF ∧ m.release.abs = [] :=
  have ⟨r1, r2⟩ := doneAll_spec m.ring
  ⟨⟨r1, wf_nil⟩, by simp only [Elastic.release, Elastic.abs, r2]; rfl⟩

/-- The body of `Peek` for the effective count `nn` (`maxInt32` for "everything") when that much is
    buffered. Stated about `r` so that the `if` is written once, in `hr`, not under each
    projection. -/
theorem elastic_peek_core (m : Elastic α) (h : m.WF) (nn : Int) (hpos : 0 < nn)
    (hok : nn = (Elastic.maxInt32 : Int) ∨ nn.toNat ≤ m.abs.length) {r : List (List α) × Err}
    (hr : (if (m.ring.buffered : Int) = nn then ([(m.ring.peek nn).1, (m.ring.peek nn).2], Err.nil)
      else m.list.peekWithBytes nn [(m.ring.peek nn).1, (m.ring.peek nn).2]) = r) :
    r.2 = .nil ∧ r.1.flatten = m.abs.take nn.toNat := by
  subst hr
  have hp := peek_spec m.ring nn h.ring
  rw [if_neg (Int.not_le.mpr hpos)] at hp
  have hbuf := (counters m.ring h.ring).1
  have hflat : [(m.ring.peek nn).1, (m.ring.peek nn).2].flatten = m.ring.abs.take nn.toNat := by
    simpa using hp
  split
  · next he =>
    refine ⟨rfl, ?_⟩
    rw [hflat, Elastic.abs, show nn.toNat = m.ring.abs.length by rw [← he, hbuf]; rfl,
      List.take_left' rfl, List.take_length]
  · next he =>
    have hl := peekWithBytes_spec m.list nn [(m.ring.peek nn).1, (m.ring.peek nn).2] h.list
    rw [hflat] at hl
    simp only [Elastic.abs, List.length_append, List.length_take] at hl hok
    rw [if_neg (by rintro ⟨_, c2, c3⟩; exact hok.elim c2 (by omega))] at hl
    have hmx :
        (if nn ≤ 0 ∨ nn = (LL.maxInt32 : Int) then LL.maxInt32 else nn.toNat) = nn.toNat := by
      split
      · next hc => exact hc.elim (by omega) fun hc => by rw [hc]; rfl
      · rfl
    rw [hmx] at hl
    exact ⟨hl.1, hl.2.trans (take_take_append ..)⟩

theorem elastic_peek_spec (m : Elastic α) (n : Int) (h : m.WF) :
    if n ≤ 0 ∨ n = (Elastic.maxInt32 : Int) then
      (m.peek n).2 = .nil ∧ (m.peek n).1.flatten = m.abs.take Elastic.maxInt32
    else if m.abs.length < n.toNat then (m.peek n).1 = []
    else (m.peek n).2 = .nil ∧ (m.peek n).1.flatten = m.abs.take n.toNat := by
  simp only [Elastic.peek, (elastic_counters m h).1, gt_iff_lt, ← Int.lt_toNat]
  by_cases hn : n ≤ 0 ∨ n = (Elastic.maxInt32 : Int)
  · simp only [if_pos hn, if_neg (fun hc : ¬ _ ∧ _ => hc.1 hn)]
    exact elastic_peek_core m h (Elastic.maxInt32 : Int) (by decide) (.inl rfl) rfl
  · simp only [if_neg hn]
    by_cases hlt : m.abs.length < n.toNat
    · simp only [if_pos hlt, if_pos (And.intro hn hlt)]
    · simp only [if_neg hlt, if_neg (fun hc : _ ∧ _ => hlt hc.2)]
      exact elastic_peek_core m h n (Int.lt_of_not_ge fun hc => hn (.inl hc))
        (.inr (Nat.le_of_not_lt hlt)) rfl

end Gnet.Proofs.Elastic
