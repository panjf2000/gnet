/-
  Queue-level facts used by the wake-up protocol proof (C03).
-/
import Gnet.Model.Msq
import Gnet.Proofs.MsqStep
namespace Gnet.Proofs.Msq
open Gnet.Msq

def EnqPc : Pc → Bool
  | .eLoadTail | .eLoadNext | .eReloadTail | .eCasNext | .eCasTail | .eAdd | .eHelpTail => true
  | _ => false
def DeqPc : Pc → Bool
  | .dLoadHead | .dLoadTail | .dLoadNext | .dReloadHead | .dHelpTail | .dCasHead | .dSub => true
  | _ => false
/-- the Enqueue has linked its node and not yet returned -/
def PendPc : Pc → Bool
  | .eCasTail | .eAdd => true
  | _ => false

theorem PendPc_iff (u : Pc) : PendPc u = true ↔ (u = .eCasTail ∨ u = .eAdd) := by
  cases u <;> simp [PendPc]

/-- total view of a thread (threads out of range look idle) -/
def thr (q : State) (j : Nat) : Thread := q.threads.getD j {}

theorem thr_of_getElem? {q : State} {j : Nat} {th : Thread} (h : q.threads[j]? = some th) : thr q j = th :=
  getD_of_getElem? h

theorem getElem?_of_lt {q : State} {j : Nat} (h : j < q.threads.length) : q.threads[j]? = some (thr q j) :=
  getElem?_getD_of_lt h

theorem thr_of_ge {q : State} {j : Nat} (h : q.threads.length ≤ j) : thr q j = {} := getD_of_ge h

theorem thr_set_ne {q q' : State} {tid j : Nat} {th' : Thread} (hne : j ≠ tid)
    (h : q'.threads = q.threads.set tid th') : thr q' j = thr q j := by
  unfold thr; rw [h, getD_set_ne hne]

theorem thr_setThread (q0 : State) (tid j : Nat) (th' : Thread) :
    thr (setThread q0 tid th') j = if j = tid ∧ tid < q0.threads.length then th' else thr q0 j := by
  unfold thr setThread
  by_cases h : tid < q0.threads.length
  · simp only [getD_set h, h, and_true, eq_comm]
  · simp only [List.set_eq_of_length_le (Nat.le_of_not_lt h), h, and_false, if_false]

structure Only (tid : Nat) (q q' : State) : Prop where
  len : q'.threads.length = q.threads.length
  ne : ∀ j, j ≠ tid → thr q' j = thr q j

theorem Only.refl (tid : Nat) (q : State) : Only tid q q := ⟨rfl, fun _ _ => rfl⟩

theorem Only.of_set {tid : Nat} {q q' : State} {th' : Thread} (h : q'.threads = q.threads.set tid th') :
    Only tid q q' :=
  ⟨by rw [h, List.length_set], fun _ hj => thr_set_ne hj h⟩

theorem only_step (q : State) (tid : Nat) : Only tid q (step q tid).1 := by
  cases hth : q.threads[tid]? with
  | none => simp only [step, hth]; exact .refl ..
  | some th =>
    simp only [step, hth]
    cases th.pc <;> simp only
    case idle => exact .refl ..
    all_goals (repeat' split) <;> exact .of_set rfl

theorem start_shared (q : State) (tid : Nat) (op : Op) :
    Only tid q (start q tid op) ∧ (start q tid op).absQ = q.absQ ∧ (start q tid op).deqLog = q.deqLog ∧
    (start q tid op).enqLog = q.enqLog ∧ (start q tid op).length = q.length := by
  unfold start
  split
  · exact ⟨.refl .., rfl, rfl, rfl, rfl⟩
  · split
    · exact ⟨.refl .., rfl, rfl, rfl, rfl⟩
    · cases op <;> exact ⟨.of_set rfl, rfl, rfl, rfl, rfl⟩

theorem only_start (q : State) (tid : Nat) (op : Op) : Only tid q (start q tid op) :=
  (start_shared q tid op).1
theorem start_absQ (q : State) (tid : Nat) (op : Op) : (start q tid op).absQ = q.absQ :=
  (start_shared q tid op).2.1
theorem start_deqLog (q : State) (tid : Nat) (op : Op) : (start q tid op).deqLog = q.deqLog :=
  (start_shared q tid op).2.2.1
theorem start_enqLog (q : State) (tid : Nat) (op : Op) : (start q tid op).enqLog = q.enqLog :=
  (start_shared q tid op).2.2.2.1
theorem start_len (q : State) (tid : Nat) (op : Op) : (start q tid op).length = q.length :=
  (start_shared q tid op).2.2.2.2

def firstPc : Op → Pc
  | .enq _ => .eLoadTail
  | .deq => .dLoadHead
  | .len => .lLoad

theorem start_thr {q : State} {tid : Nat} (op : Op) (hlt : tid < q.threads.length)
    (hi : (thr q tid).pc = .idle) :
    thr (start q tid op) tid = match op with
      | .enq _ => { thr q tid with pc := .eLoadTail, node := q.nodes.length, ghostRet := none }
      | .deq => { thr q tid with pc := .dLoadHead, ghostSawEmpty := false, ghostRet := none }
      | .len => { thr q tid with pc := .lLoad } := by
  unfold start
  rw [getElem?_of_lt hlt]
  simp only [hi]
  cases op <;> simp [thr_setThread, hlt]

theorem start_pc {q : State} {tid : Nat} (op : Op) (hlt : tid < q.threads.length)
    (hi : (thr q tid).pc = .idle) : (thr (start q tid op) tid).pc = firstPc op := by
  rw [start_thr op hlt hi]; cases op <;> rfl

/-- on a thread that is busy or out of range -/
theorem start_eq_self {q : State} {tid : Nat} (op : Op)
    (h : ¬ (tid < q.threads.length ∧ (thr q tid).pc = .idle)) : start q tid op = q := by
  unfold start
  split
  · rfl
  · rename_i th hth
    rw [if_pos fun e => h ⟨lt_of_getElem? hth, (thr_of_getElem? hth).symm ▸ e⟩]

@[simp] theorem setThread_absQ (q : State) (tid : Nat) (t : Thread) :
    (setThread q tid t).absQ = q.absQ := rfl
@[simp] theorem setThread_deqLog (q : State) (tid : Nat) (t : Thread) :
    (setThread q tid t).deqLog = q.deqLog := rfl
@[simp] theorem setThread_enqLog (q : State) (tid : Nat) (t : Thread) :
    (setThread q tid t).enqLog = q.enqLog := rfl
@[simp] theorem setThread_length (q : State) (tid : Nat) (t : Thread) :
    (setThread q tid t).length = q.length := rfl
@[simp] theorem setThread_nodes (q : State) (tid : Nat) (t : Thread) :
    (setThread q tid t).nodes = q.nodes := rfl
@[simp] theorem setThread_head (q : State) (tid : Nat) (t : Thread) :
    (setThread q tid t).head = q.head := rfl
@[simp] theorem setThread_tail (q : State) (tid : Nat) (t : Thread) :
    (setThread q tid t).tail = q.tail := rfl

theorem enq_step {q : State} {tid : Nat} (hlt : tid < q.threads.length)
    (he : EnqPc (thr q tid).pc = true) :
    (step q tid).1.deqLog = q.deqLog ∧
    (((step q tid).2 = none ∧ EnqPc (thr (step q tid).1 tid).pc = true) ∨
      ((step q tid).2 = some .enqDone ∧ (thr (step q tid).1 tid).pc = .idle)) ∧
    ((step q tid).1.absQ = q.absQ ∨
      ((∃ v, (step q tid).1.absQ = q.absQ ++ [v]) ∧ (thr (step q tid).1 tid).pc = .eCasTail)) ∧
    ((thr q tid).pc = .eCasTail → (step q tid).2 = none ∧ (thr (step q tid).1 tid).pc = .eAdd) ∧
    ((thr q tid).pc = .eAdd → (step q tid).2 = some .enqDone) := by
  have hth := getElem?_of_lt hlt
  generalize thr q tid = th at *
  simp only [step, hth]
  cases hpc : th.pc <;> simp [EnqPc, hpc] at he <;> simp only
  all_goals (repeat' split)
  all_goals simp [thr_setThread, hlt, EnqPc]

theorem step_enq_absQ {q : State} {tid : Nat} (hlt : tid < q.threads.length)
    (he : EnqPc (thr q tid).pc = true) : q.absQ ≠ [] → (step q tid).1.absQ ≠ [] := by
  rcases (enq_step hlt he).2.2.1 with h | ⟨⟨v, h⟩, _⟩ <;> rw [h]
  · exact id
  · simp

theorem step_eCasTail_next {q : State} {tid : Nat} (hlt : tid < q.threads.length)
    (hpc : (thr q tid).pc = .eCasTail) :
    (step q tid).2 = none ∧ (thr (step q tid).1 tid).pc = .eAdd :=
  (enq_step hlt (by rw [hpc]; rfl)).2.2.2.1 hpc

theorem step_eAdd_ret {q : State} {tid : Nat} (hlt : tid < q.threads.length)
    (hpc : (thr q tid).pc = .eAdd) : (step q tid).2 = some .enqDone :=
  (enq_step hlt (by rw [hpc]; rfl)).2.2.2.2 hpc

theorem lag_pending {q : State} (I : Inv q) (hlen : q.length = 0) (hq : q.absQ ≠ [])
    (hsub : ∀ j, (thr q j).pc ≠ .dSub) : ∃ j, j < q.threads.length ∧ PendPc (thr q j).pc = true := by
  obtain ⟨c, h, t, I⟩ := I
  have hl := I.len
  have h2 : q.threads.countP (fun t => t.pc == .dSub) = 0 := by
    rw [List.countP_eq_zero]
    intro th hth
    obtain ⟨j, hj⟩ := List.mem_iff_getElem?.1 hth
    have := hsub j
    rw [thr_of_getElem? hj] at this
    simpa using this
  have h3 : 0 < q.absQ.length := List.length_pos_iff.2 hq
  have h1 : 0 < q.threads.countP (fun t => t.pc == .eCasTail || t.pc == .eAdd) := by omega
  obtain ⟨th, hth, hp⟩ := List.countP_pos_iff.1 h1
  obtain ⟨j, hj⟩ := List.mem_iff_getElem?.1 hth
  refine ⟨j, lt_of_getElem? hj, ?_⟩
  rw [thr_of_getElem? hj]
  exact (PendPc_iff _).2 (by simpa using hp)

/-- the task just unlinked by a Dequeue and not yet returned -/
def inflight (th : Thread) : List Nat := if th.pc = .dSub then [th.task] else []

/-- what Dequeues of thread `tid` have returned so far: the dequeue log without the task in flight -/
def Served (tid : Nat) (q : State) (X : List Nat) : Prop := q.deqLog = X ++ inflight (thr q tid)

/-- `start` puts no thread at `dSub` -/
theorem Served.start {tid : Nat} {q : State} {X : List Nat} (h : Served tid q X) (j : Nat) (op : Op) :
    Served tid (start q j op) X := by
  unfold Served; rw [start_deqLog, h]; congr 1
  by_cases e : tid = j
  · subst e
    by_cases hj : tid < q.threads.length ∧ (thr q tid).pc = .idle
    · unfold inflight; rw [start_pc op hj.1 hj.2, hj.2]; cases op <;> rfl
    · rw [start_eq_self op hj]
  · rw [(only_start q j op).ne tid e]

theorem Served.enq {tid j : Nat} {q : State} {X : List Nat} (h : Served tid q X) (hj : tid ≠ j)
    (hlt : j < q.threads.length) (he : EnqPc (thr q j).pc = true) : Served tid (step q j).1 X := by
  unfold Served; rw [(enq_step hlt he).1, (only_step q j).ne tid hj]; exact h

theorem runEvs_append : ∀ (a b : List Ev) (s : State), runEvs s (a ++ b) = runEvs (runEvs s a) b
  | [], _, _ => rfl
  | _ :: es, b, _ => runEvs_append es b _

theorem reachable_start {q : State} (h : Reachable q) (tid : Nat) (op : Op) :
    Reachable (start q tid op) := by
  obtain ⟨n, evs, rfl⟩ := h
  exact ⟨n, evs ++ [.start tid op], by rw [runEvs_append]; rfl⟩

theorem reachable_step {q : State} (h : Reachable q) (tid : Nat) : Reachable (step q tid).1 := by
  obtain ⟨n, evs, rfl⟩ := h
  exact ⟨n, evs ++ [.step tid], by rw [runEvs_append]; rfl⟩

end Gnet.Proofs.Msq
