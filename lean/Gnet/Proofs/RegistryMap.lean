/-
  `conn_map.go`: a map with a counter, so `MInv` is agreement with `lookup` field by field; the only
  work is iteration with removal, a fold over a snapshot of the keys that shrinks the map under it.
-/
import Gnet.Proofs.RegistrySpec
namespace Gnet.Proofs.Registry
open Gnet

structure MInv (m : RegMap) (s : RegSpec) : Prop where
  sinv : SInv s
  conns : ∀ fd, m.conns fd = s.lookup fd
  live : m.live = s.live.map (·.1)
  count : m.count = s.live.length
  objs : ∀ id, m.objs id = s.fdOf id

theorem MInv.init : MInv RegMap.init RegSpec.init :=
  ⟨.nil _, fun _ => rfl, rfl, rfl, fun _ => rfl⟩

variable {m : RegMap} {s : RegSpec}

theorem MInv.conn (h : MInv m s) (id : Nat) (fd : Int) (hv : ∀ p ∈ s.live, p.2 ≠ id) :
    MInv (m.newConn id fd) (s.step (.conn id fd)) := by
  refine ⟨h.sinv.conn id fd hv, h.conns, h.live, h.count, ?_⟩
  intro i
  show Matrix.upd m.objs id fd i = if i = id then fd else s.fdOf i
  rw [upd_apply, h.objs]

theorem MInv.add (h : MInv m s) (id el : Nat)
    (hv : ∀ p ∈ s.live, p.1 ≠ s.fdOf id ∧ p.2 ≠ id) :
    MInv (m.addConn id) (s.step (.add id el)) := by
  refine ⟨h.sinv.add id el hv, ?_, ?_, ?_, h.objs⟩
  · intro fd
    show Matrix.updI m.conns (m.objs id) (some id) fd = _
    rw [h.objs, lookup_add id el (fun p hp => (hv p hp).1), ← h.conns]
    rfl
  · show (if m.live.contains (m.objs id) then m.live else m.live ++ [m.objs id]) = _
    have hnc : m.live.contains (m.objs id) = false := by
      rw [h.live, h.objs]
      apply Bool.eq_false_iff.2
      intro hc
      rw [List.contains_iff_mem, List.mem_map] at hc
      obtain ⟨p, hp, e⟩ := hc
      exact (hv p hp).1 e
    rw [hnc, h.live, h.objs]
    show _ = (s.live ++ [(s.fdOf id, id)]).map (·.1)
    simp
  · show m.count + 1 = ((s.live ++ [(s.fdOf id, id)]).length : Int)
    rw [h.count]; simp

theorem MInv.del (h : MInv m s) (id : Nat) (hv : (s.fdOf id, id) ∈ s.live) :
    MInv (m.delConn id) (s.step (.del id)) := by
  refine ⟨h.sinv.del id, ?_, ?_, ?_, h.objs⟩
  · intro fd
    show Matrix.updI m.conns (m.objs id) none fd = _
    rw [h.objs, h.sinv.lookup_del hv, ← h.conns]
    rfl
  · show m.live.erase (m.objs id) = _
    rw [h.live, h.objs]
    exact keys_remove_id h.sinv.pw hv
  · show m.count - 1 = ((s.live.filter (fun p => p.2 != id)).length : Int)
    rw [h.count]
    have := length_remove_id h.sinv.pw hv
    omega

/-- the body of the fold in `RegMap.iterate` -/
def iterStep (del : Bool) (acc : RegMap × List Nat) (fd : Int) : RegMap × List Nat :=
  match acc.1.conns fd with
  | none => acc
  | some id => (if del then acc.1.delConn id else acc.1, acc.2 ++ [id])

theorem iterStep_some {del : Bool} {m : RegMap} {fd : Int} {id : Nat} (h : m.conns fd = some id)
    (acc : List Nat) :
    iterStep del (m, acc) fd = (if del then m.delConn id else m, acc ++ [id]) := by
  unfold iterStep; simp only [h]

theorem iterate_fold_false (m : RegMap) : ∀ (l : List (Int × Nat)) (acc : List Nat),
    (∀ p ∈ l, m.conns p.1 = some p.2) →
    (l.map (·.1)).foldl (iterStep false) (m, acc) = (m, acc ++ l.map (·.2))
  | [], acc, _ => by simp
  | a :: t, acc, h => by
    rw [List.map_cons, List.foldl_cons, iterStep_some (h a List.mem_cons_self),
      if_neg Bool.false_ne_true,
      iterate_fold_false m t (acc ++ [a.2]) fun p hp => h p (List.mem_cons_of_mem _ hp)]
    simp

theorem iterate_fold_true (fdOf : Nat → Int) :
    ∀ (l : List (Int × Nat)) (m : RegMap) (acc : List Nat),
    MInv m ⟨l, fdOf⟩ →
    ∃ m', (l.map (·.1)).foldl (iterStep true) (m, acc) = (m', acc ++ l.map (·.2)) ∧
      MInv m' ⟨[], fdOf⟩
  | [], m, acc, h => ⟨m, by simp, h⟩
  | (fd, id) :: t, m, acc, h => by
    have hmem : (fd, id) ∈ (⟨(fd, id) :: t, fdOf⟩ : RegSpec).live := List.mem_cons_self
    have hv : (fdOf id, id) ∈ (⟨(fd, id) :: t, fdOf⟩ : RegSpec).live := by
      rw [show fdOf id = fd from h.sinv.fdof _ hmem]; exact hmem
    have hst : (⟨(fd, id) :: t, fdOf⟩ : RegSpec).step (.del id) = ⟨t, fdOf⟩ := by
      show (⟨((fd, id) :: t).filter (fun p => p.2 != id), fdOf⟩ : RegSpec) = _
      rw [List.filter_cons_of_neg (by simp), List.filter_eq_self.2]
      intro q hq
      simpa using ((List.pairwise_cons.1 h.sinv.pw).1 q hq).2.symm
    have hd := h.del id hv
    rw [hst] at hd
    obtain ⟨m', he, h1⟩ := iterate_fold_true fdOf t (m.delConn id) (acc ++ [id]) hd
    refine ⟨m', ?_, h1⟩
    rw [List.map_cons, List.foldl_cons, iterStep_some (by rw [h.conns, h.sinv.lookup_mem hmem]),
      if_pos rfl, he]
    simp

theorem MInv.iter (h : MInv m s) (d : Bool) :
    (m.iterate d).2 = s.live.map (·.2) ∧ MInv (m.iterate d).1 (s.step (.iter d)) := by
  rw [show m.iterate d = m.live.foldl (iterStep d) (m, []) from rfl, h.live]
  cases d with
  | false =>
    rw [iterate_fold_false m s.live [] fun p hp => by
      rw [h.conns, h.sinv.lookup_mem (show (p.1, p.2) ∈ _ from hp)]]
    exact ⟨List.nil_append _, h⟩
  | true =>
    obtain ⟨m', he, h1⟩ := iterate_fold_true s.fdOf s.live m [] h
    rw [he]
    exact ⟨List.nil_append _, h1⟩

theorem map_refines (cap : Nat) : ∀ (ops : List RegOp) (m : RegMap) (s : RegSpec), MInv m s →
    s.validRun cap ops →
    s.agreesRun ops (m.run ops).2 ∧ MInv (m.run ops).1 (ops.foldl RegSpec.step s)
  | [], _, _, h, _ => ⟨trivial, h⟩
  | op :: ops, m, s, h, hv => by
    have step : s.agrees op (m.runOp op).2 ∧ MInv (m.runOp op).1 (s.step op) := by
      cases op with
      | conn id fd => exact ⟨trivial, h.conn id fd hv.1⟩
      | add id el => exact ⟨trivial, h.add id el hv.1.1⟩
      | del id => exact ⟨trivial, h.del id hv.1⟩
      | get fd => exact ⟨h.conns fd, h⟩
      | count => exact ⟨h.count, h⟩
      | iter d =>
        have := h.iter d
        exact ⟨List.Perm.of_eq this.1, this.2⟩
    have ih := map_refines cap ops _ _ step.2 hv.2
    exact ⟨⟨step.1, ih.1⟩, ih.2⟩

end Gnet.Proofs.Registry
