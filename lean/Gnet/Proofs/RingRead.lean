import Gnet.Proofs.RingBasic
/-
  The operations that read. Those that consume take some `m` elements from the front of the window:
  `consume`, and their specifications follow from saying which `m`.
-/
set_option linter.unusedSectionVars false
namespace Gnet.Proofs.Ring
open Gnet
variable {α : Type} [Inhabited α]

theorem ite_iff_imp (c : Prop) [Decidable c] (a b : Prop) :
    (if c then a else b) ↔ (c → a) ∧ (¬c → b) := by
  split <;> simp [*]

def consume (rb : Ring α) (m : Nat) : Ring α :=
  if m < rb.buffered then { rb with r := (rb.r + m) % rb.size } else rb.reset

theorem consume_spec (rb : Ring α) (m : Nat) (h : rb.WF) :
    (consume rb m).WF ∧ (consume rb m).abs = rb.abs.drop m := by
  obtain ⟨hl, habs, hba, hw, hs⟩ := shape h
  unfold consume
  rw [habs, drop_win]
  split
  next hm =>
    obtain ⟨he, hr, _⟩ := hs.resolve_left (by omega)
    rw [he, win_mod (by omega), hl]
    exact of_shape hl (Nat.mod_lt _ (Nat.zero_lt_of_lt hr)) (Nat.sub_pos_of_lt hm) (by omega)
      (by rw [Nat.mod_add_mod, Nat.add_assoc, Nat.add_sub_cancel' (Nat.le_of_lt hm), hw])
  next hm => rw [Nat.sub_eq_zero_of_le (Nat.le_of_not_lt hm), win_zero]; exact reset_spec rb h

/-- `Read`, `ReadByte` and `WriteTo` advance `r` by `m = min buffered n` and then test for
    emptiness, by `r = w` or by count: whichever test `t`, if it is right, this is `consume`. -/
theorem consume_eq {rb : Ring α} (he : rb.isEmpty = false) (m n : Nat) {r' : Nat} {t : Prop}
    [Decidable t] (hmn : m = min rb.buffered n) (hr' : r' = (rb.r + m) % rb.size)
    (ht : t ↔ rb.buffered ≤ m) :
    (if t then (⟨rb.buf, rb.size, r', rb.w, false⟩ : Ring α).reset
      else ⟨rb.buf, rb.size, r', rb.w, false⟩) =
      consume rb n := by
  unfold consume
  subst hr'
  by_cases hk : n < rb.buffered
  · rw [if_pos hk, if_neg (by rw [ht]; omega), he, show n = m by omega]
  · rw [if_neg hk, if_pos (ht.mpr (by omega))]; rfl

/-- not for `m = 0`: in a full buffer `r = w` already -/
theorem r_eq_w_iff {rb : Ring α} {m : Nat} (h : rb.WF) (hm : 0 < m) (hmk : m ≤ rb.buffered) :
    (rb.r + m) % rb.size = rb.w ↔ rb.buffered ≤ m := by
  obtain ⟨_, _, hba, hw, hs⟩ := shape h
  obtain ⟨_, hr, _⟩ := hs.resolve_left (by omega)
  have h1 := mod_wrap (rb.r + m) rb.size (by omega)
  have h2 := mod_wrap (rb.r + rb.buffered) rb.size (by omega)
  omega

theorem read_eq {rb : Ring α} {n : Nat} (h : rb.WF) (hn : n ≠ 0) (he : rb.isEmpty = false) :
    rb.read n = (consume rb n, win rb.buf rb.r (min rb.buffered n), .nil) := by
  obtain ⟨hl, ⟨c, hw, hk, -⟩ | ⟨c, hr, hk, -⟩⟩ := lay h he
  · simp only [Ring.read, hn, he, c, if_true, if_false, Bool.false_eq_true, hk]
    rw [consume_eq he _ n rfl (Nat.mod_eq_of_lt (by omega)).symm (by omega), win_of_le (by omega)]
  · simp only [Ring.read, hn, he, c, if_false, Bool.false_eq_true, hk]
    rw [consume_eq he _ n rfl rfl (r_eq_w_iff h (by omega) (Nat.min_le_left ..))]
    split
    · rw [win_of_le (hl ▸ ‹_›)]
    · rw [win_of_ge (hl ▸ Nat.le_of_lt hr) (hl ▸ Nat.le_of_not_le ‹_›), hl]

theorem read_spec (rb : Ring α) (n : Nat) (h : rb.WF) :
    rb.readSafe n = true ∧ (rb.read n).1.WF ∧ (rb.read n).1.abs = rb.abs.drop n ∧
    (rb.read n).2.1 = rb.abs.take n ∧ ((rb.read n).2.2 = .nil ∨ (rb.abs = [] ∧ 0 < n)) := by
  obtain ⟨hl, habs, _, _, hs⟩ := shape h
  by_cases hn : n = 0
  · simp [hn, Ring.read, Ring.readSafe, h]
  rcases hs with ⟨he, _, hk⟩ | ⟨he, _⟩
  · simp [Ring.read, Ring.readSafe, hn, he, h, habs, hk, win_zero]
    omega
  · rw [read_eq h hn he]
    refine ⟨?_, (consume_spec rb n h).1, (consume_spec rb n h).2,
      by rw [habs, take_win, Nat.min_comm], .inl rfl⟩
    have := lay h he
    simp [Ring.readSafe, hn, he, ite_iff_imp]
    omega

theorem discard_eq {rb : Ring α} {n : Int} (hn : 0 < n) :
    rb.discard n = (consume rb n.toNat, min n.toNat rb.buffered) := by
  unfold Ring.discard consume
  rw [if_neg (by omega)]
  by_cases h : n.toNat < rb.buffered
  · simp only [h, if_true, Nat.min_eq_left (Nat.le_of_lt h)]
  · simp only [h, if_false, Nat.min_eq_right (Nat.le_of_not_lt h)]

theorem discard_spec (rb : Ring α) (n : Int) (h : rb.WF) :
    rb.discardSafe n = true ∧ (rb.discard n).1.WF ∧ (rb.discard n).1.abs = rb.abs.drop n.toNat ∧
    (rb.discard n).2 = min n.toNat rb.abs.length := by
  have hsafe : rb.discardSafe n = true := by
    have := buffered_add_available h
    simp [Ring.discardSafe]; omega
  by_cases hn : 0 < n
  · rw [discard_eq hn, buffered_eq h]
    exact ⟨hsafe, (consume_spec rb _ h).1, (consume_spec rb _ h).2, rfl⟩
  · rw [show n.toNat = 0 by omega]
    simp only [Ring.discard, if_pos (Int.not_lt.mp hn)]
    exact ⟨hsafe, h, rfl, by omega⟩

theorem readByte_spec (rb : Ring α) (h : rb.WF) :
    rb.readByteSafe = true ∧ rb.readByte.1.WF ∧ rb.readByte.1.abs = rb.abs.drop 1 ∧
    rb.readByte.2.1.toList = rb.abs.take 1 ∧
    ((rb.readByte.2.2 = .nil ∧ rb.abs ≠ []) ∨ (rb.readByte.2.2 = .isEmpty ∧ rb.abs = [])) := by
  obtain ⟨hl, habs, _, _, hs⟩ := shape h
  rcases hs with ⟨he, _, hk⟩ | ⟨he, hr, hk⟩
  · have h0 := (isEmpty_iff h).mp he
    simp [Ring.readByte, Ring.readByteSafe, he, h, h0]
  · simp only [Ring.readByte, Ring.readByteSafe, he, Bool.false_eq_true, if_false, Bool.false_or,
      decide_eq_true_eq, wrap_eq_mod (Nat.succ_le_of_lt hr)]
    rw [consume_eq he 1 1 (Nat.min_eq_right hk).symm rfl (r_eq_w_iff h Nat.one_pos hk)]
    refine ⟨hl ▸ hr, (consume_spec rb 1 h).1, (consume_spec rb 1 h).2, ?_,
      .inl ⟨trivial, List.ne_nil_of_length_pos (buffered_eq h ▸ hk)⟩⟩
    rw [← List.head?_drop, ← List.take_one, habs, take_win, Nat.min_eq_left hk, win_of_le (hl ▸ hr)]

/-- Go's `if w != 0 { tail = buf[:w] }` in `Bytes` and `peekAll` -/
theorem take_unless_zero (buf : List α) (w : Nat) :
    (if w ≠ 0 then buf.take w else []) = buf.take w := by
  split
  · rfl
  · rw [show w = 0 by omega]; rfl

theorem bytes_spec (rb : Ring α) (h : rb.WF) : rb.bytesSafe = true ∧ rb.bytes = rb.abs := by
  refine ⟨?_, ?_⟩
  · cases he : rb.isEmpty
    · have := lay h he
      simp [Ring.bytesSafe]; omega
    · simp [Ring.bytesSafe, he]
  simp only [Ring.bytes, Ring.abs, take_unless_zero]
  split
  · rfl
  · -- `Bytes` treats the full buffer (`w = r`) apart, with the value of the wrapped case
    split
    · rw [if_neg (by omega)]
    · rfl

theorem peek_eq_read {rb : Ring α} {n : Int} (hn : 0 < n) (he : rb.isEmpty = false) :
    (rb.peek n).1 ++ (rb.peek n).2 = (rb.read n.toNat).2.1 := by
  simp only [Ring.peek, Ring.read, he, Bool.false_eq_true, if_false, if_neg (Int.not_le.mpr hn),
    if_neg (show n.toNat ≠ 0 by omega)]
  split
  · exact List.append_nil _
  · split
    · exact List.append_nil _
    · rfl

theorem peek_prefix (rb : Ring α) (n : Int) (h : rb.WF) :
    rb.peekSafe n = true ∧
    (rb.peek n).1 ++ (rb.peek n).2 = (if n ≤ 0 then rb.abs else rb.abs.take n.toNat) := by
  cases he : rb.isEmpty
  · have := lay h he
    refine ⟨by simp [Ring.peekSafe, he, ite_iff_imp]; omega, ?_⟩
    split
    next hn =>
      simp only [Ring.peek, Ring.peekAll, Ring.abs, he, hn, Bool.false_eq_true, if_false, if_true,
        gt_iff_lt, take_unless_zero]
      split
      · exact List.append_nil _
      · rfl
    next hn => rw [peek_eq_read (by omega) he, (read_spec rb _ h).2.2.2.1]
  · simp [Ring.peek, Ring.peekSafe, Ring.abs, he]

theorem wstep_le (sc : List WStep) (n : Nat) :
    ∃ m err rest, Ring.wstep sc n = (m, err, rest) ∧ m ≤ n := by
  cases sc with
  | nil => exact ⟨_, _, _, rfl, Nat.zero_le n⟩
  | cons s rest => exact ⟨_, _, _, rfl, Nat.min_le_right ..⟩

/-- `WriteTo` reports success only when the state it leaves is empty -/
theorem writeTo_err {rb : Ring α} {m : Nat} {err : Err} (he : rb.isEmpty = false)
    (hm : m ≤ rb.buffered)
    (h : (if err ≠ .nil then err
      else if (!(consume rb m).isEmpty) = true then .shortWrite else .nil) = Err.nil) :
    m = rb.buffered := by
  split at h
  · contradiction
  · unfold consume at h
    split at h
    · simp [he] at h
    · omega

/-- stated about `t` so that the definition is unfolded once, in `ht`, not under each projection -/
theorem writeTo_eq {rb : Ring α} {sc : List WStep} (h : rb.WF) (he : rb.isEmpty = false)
    {t : Ring α × Nat × Err × List α × List WStep} (ht : rb.writeTo sc = t) :
    t.1 = consume rb t.2.1 ∧ t.2.2.2.1 = win rb.buf rb.r t.2.1 ∧ t.2.1 ≤ rb.buffered ∧
    (t.2.2.1 = .nil → t.2.1 = rb.buffered) := by
  obtain ⟨hl, hlay⟩ := lay h he
  -- one `Write` of all the content, when it is contiguous
  have hsink {m : Nat} (hle : m ≤ rb.buffered) (hc : rb.r + rb.buffered ≤ rb.size) :
      (((rb.buf.drop rb.r).take rb.buffered).take m) = win rb.buf rb.r m := by
    rw [List.take_take, Nat.min_eq_left hle,
      win_of_le (hl ▸ Nat.le_trans (Nat.add_le_add_left hle _) hc)]
  obtain ⟨c, hw, hk, -⟩ | ⟨c, hr, hk, -⟩ := hlay
  · obtain ⟨m, err, rest, hx, hle⟩ := wstep_le sc rb.buffered
    simp only [Ring.writeTo, he, c, if_true, Bool.false_eq_true, if_false, hk, hx] at ht
    rw [consume_eq he m m (Nat.min_eq_right hle).symm (Nat.mod_eq_of_lt (by omega)).symm
      (by omega)] at ht
    subst ht
    exact ⟨rfl, hsink hle (by omega), hle, writeTo_err he hle⟩
  by_cases c2 : rb.r + rb.buffered ≤ rb.size
  · obtain ⟨m, err, rest, hx, hle⟩ := wstep_le sc rb.buffered
    simp only [Ring.writeTo, he, c, c2, if_true, Bool.false_eq_true, if_false, hk, hx] at ht
    rw [consume_eq he m m (Nat.min_eq_right hle).symm rfl (by omega)] at ht
    subst ht
    exact ⟨rfl, hsink hle c2, hle, writeTo_err he hle⟩
  · -- the content wraps: `buf[r:]` first and, if the writer took all of it, `buf[:w]`
    obtain ⟨m, err, rest, hx, hle⟩ := wstep_le sc (rb.size - rb.r)
    obtain ⟨m2, err2, rest2, hx2, hle2⟩ := wstep_le rest (rb.buffered - (rb.size - rb.r))
    simp only [Ring.writeTo, he, c, c2, Bool.false_eq_true, if_false, hk, hx, hx2] at ht
    -- an early return: `r` was advanced short of `buffered`, so no test for emptiness is needed
    have hmk : m < rb.buffered := by omega
    have hearly : (⟨rb.buf, rb.size, (rb.r + m) % rb.size, rb.w, false⟩ : Ring α) = consume rb m ∧
        (rb.buf.drop rb.r).take m = win rb.buf rb.r m ∧ m ≤ rb.buffered :=
      ⟨by rw [consume, if_pos hmk, he], by rw [win_of_le (by omega)], Nat.le_of_lt hmk⟩
    by_cases e1 : err ≠ .nil
    · rw [if_pos e1] at ht
      subst ht
      exact ⟨hearly.1, hearly.2.1, hearly.2.2, fun e => absurd e e1⟩
    rw [if_neg e1] at ht
    by_cases c3 : m < rb.size - rb.r
    · rw [if_pos c3] at ht
      subst ht
      exact ⟨hearly.1, hearly.2.1, hearly.2.2, nofun⟩
    · -- `r` has passed the end of the slice and stands at `m2`
      rw [if_neg c3] at ht
      obtain rfl := Nat.le_antisymm hle (Nat.le_of_not_lt c3)
      have hr' : m2 = (rb.r + (rb.size - rb.r + m2)) % rb.size := by
        rw [← Nat.add_assoc, Nat.add_sub_cancel' (Nat.le_of_lt hr), Nat.add_mod_left,
          Nat.mod_eq_of_lt (by omega)]
      have hle' : rb.size - rb.r + m2 ≤ rb.buffered := by omega
      rw [consume_eq he _ _ (Nat.min_eq_right hle').symm hr' (by omega)] at ht
      subst ht
      refine ⟨rfl, ?_, hle', writeTo_err he hle'⟩
      show _ ++ _ = win rb.buf rb.r (rb.size - rb.r + m2)
      rw [win_of_ge (hl ▸ Nat.le_of_lt hr) (by omega), hl, Nat.add_sub_cancel_left,
        List.take_of_length_le (by simp; omega), List.take_take, Nat.min_eq_left hle2]

theorem writeTo_spec (rb : Ring α) (sc : List WStep) (h : rb.WF) :
    rb.writeToSafe sc = true ∧ (rb.writeTo sc).1.WF ∧
    (rb.writeTo sc).1.abs = rb.abs.drop (rb.writeTo sc).2.1 ∧
    (rb.writeTo sc).2.2.2.1 = rb.abs.take (rb.writeTo sc).2.1 ∧
    (rb.writeTo sc).2.1 ≤ rb.abs.length ∧
    ((rb.writeTo sc).2.2.1 = .nil → (rb.writeTo sc).2.1 = rb.abs.length) := by
  cases he : rb.isEmpty
  · obtain ⟨h1, h2, h3, h4⟩ := writeTo_eq h he rfl
    have habs := abs_eq_win h
    have := lay h he
    rw [h1, h2, ← buffered_eq h, habs, take_win, Nat.min_eq_left h3]
    exact ⟨by simp [Ring.writeToSafe, he]; omega, (consume_spec rb _ h).1,
      habs ▸ (consume_spec rb _ h).2, rfl, h3, h4⟩
  · simp [Ring.writeTo, Ring.writeToSafe, he, h]
