/-
  How the field updates of the model act on the conditions `Lv`, `Snd`, `SndE`, and the list facts
  behind the guards of the write loops.
-/
import Gnet.Proofs.ReactorGood
namespace Gnet.Reactor
variable {A B : Prop}

theorem Lv.zero {x : Conn} : Lv A B 0 x := Or.inl rfl

theorem Lv.closed {k : Nat} {x : Conn} (h : x.opened = false) : Lv A B k x :=
  Or.inr (fun ho => by rw [h] at ho; cases ho)

theorem Lv.of_two {k : Nat} {x : Conn} (h : Lv A B 2 x) : Lv A B k x := by
  rcases h with h | h
  · cases h
  · exact Or.inr (fun ho => by
      obtain ⟨h1, h2, h3, h4⟩ := h ho
      exact ⟨h1, fun _ => h2 rfl, h3, h4⟩)

theorem Lv.to_one {k : Nat} {x : Conn} (hk : 1 ≤ k) (h : Lv A B k x) : Lv A B 1 x := by
  rcases h with h | h
  · omega
  · exact Or.inr (fun ho => by
      obtain ⟨h1, _, h3, h4⟩ := h ho
      exact ⟨h1, fun h => absurd h (by decide), h3, h4⟩)

theorem Lv.reg {k : Nat} {x : Conn} (hk : 1 ≤ k) (h : Lv A B k x) :
    x.opened = true → x.registered = true := by
  rcases h with h | h
  · omega
  · exact fun ho => (h ho).1

/-- `Lv` reads nine fields of the connection; an update of the other four keeps it -/
theorem Lv.congr {k : Nat} {x : Conn} {e f n : Bool} {w : List String} (hx : Lv A B k x) :
    Lv A B k { x with isEOF := e, fdOpen := f, word := w, closeErrNil := n } := hx

set_option hygiene false in
/-- for an update of the outbound fields only. Unhygienic: it leaves `ho : x.opened = true`, `h1 h2 h3`
    (used for the unchanged parts), `hB : B` and `h4`, the outbound part of `h`; the goal is the outbound
    part of the new condition -/
macro "lv_start" h:ident : tactic => `(tactic| (
  rcases $h:ident with h0 | $h:ident
  · exact Or.inl h0
  refine Or.inr (fun ho => ?_)
  obtain ⟨h1, h2, h3, h4⟩ := $h:ident ho
  refine ⟨h1, h2, h3, fun hB => ?_⟩
  replace h4 := h4 hB))

theorem Lv.write {k : Nat} {x : Conn} {d : List Nat} {j : Nat} (hx : Lv A B k x)
    (hd : d = x.outbound.take d.length) (hj : j ≤ d.length) :
    Lv A B k { x with outbound := x.outbound.drop j, toKernel := x.toKernel ++ d.take j } := by
  lv_start hx
  simp only [eqOut] at h4 ⊢
  rw [List.append_assoc, hd, List.take_take, Nat.min_eq_left hj, List.take_append_drop]; exact h4

theorem Lv.append_both {k : Nat} {x : Conn} {data : List Nat} (hx : Lv A B k x) :
    Lv A B k { x with outbound := x.outbound ++ data, accepted := x.accepted ++ data } := by
  lv_start hx
  simp only [eqOut] at h4 ⊢
  rw [← List.append_assoc, h4]

/-- `outboundBuffer.Release()` on a broken connection: the buffered bytes leave `accepted` as well -/
theorem Lv.release {k : Nat} {x : Conn} (hx : Lv A B k x) :
    Lv A B k { x with outbound := [], accepted := x.toKernel } := by
  lv_start hx
  simp [eqOut]

theorem Snd.start {k : Nat} {x : Conn} {buf : List Nat} (hx : Lv A B k x) :
    Snd A B k buf { x with accepted := x.accepted ++ buf } := by
  lv_start hx
  simp only [eqOut] at h4
  show x.toKernel ++ x.outbound ++ buf = x.accepted ++ buf
  rw [h4]

theorem Snd.buffer {k : Nat} {x : Conn} {buf : List Nat} (hx : Snd A B k buf x) :
    Lv A B k { x with outbound := x.outbound ++ buf } := by
  lv_start hx
  simp only [eqOut]
  rw [← List.append_assoc]; exact h4

theorem Snd.reg {k : Nat} {x : Conn} {buf : List Nat} (hk : 1 ≤ k) (h : Snd A B k buf x) :
    x.opened = true → x.registered = true := by
  rcases h with h | h
  · omega
  · exact fun ho => (h ho).1

theorem SndE.toSnd {k : Nat} {x : Conn} {data : List Nat} (hx : SndE A B k data x) : Snd A B k data x := by
  lv_start hx
  rw [h4.1, List.append_nil]; exact h4.2

theorem Snd.toE {k : Nat} {x : Conn} {data : List Nat} (hx : Snd A B k data x) (ho' : x.outbound = []) :
    SndE A B k data x := by
  lv_start hx
  rw [ho', List.append_nil] at h4
  exact ⟨ho', h4⟩

theorem SndE.start {k : Nat} {x : Conn} {data : List Nat} (hx : Lv A B k x) (ho' : x.outbound = []) :
    SndE A B k data { x with accepted := x.accepted ++ data } := (Snd.start hx).toE ho'

theorem SndE.buffer {k : Nat} {x : Conn} {data : List Nat} (hx : SndE A B k data x) :
    Lv A B k { x with outbound := x.outbound ++ data } := Snd.buffer hx.toSnd

theorem SndE.untake {k : Nat} {x : Conn} {data : List Nat} (hx : SndE A B k data x) :
    Lv A B k { x with accepted := x.accepted.take (x.accepted.length - data.length) } := by
  lv_start hx
  simp only [eqOut] at h4 ⊢
  rw [h4.1, List.append_nil, ← h4.2, List.length_append, Nat.add_sub_cancel, List.take_left']
  rfl

theorem SndE.partial {k : Nat} {x : Conn} {data p rest : List Nat} (hx : SndE A B k data x)
    (hp : p ++ rest = data) : SndE A B k rest { x with toKernel := x.toKernel ++ p } := by
  lv_start hx
  refine ⟨h4.1, ?_⟩
  show (x.toKernel ++ p) ++ rest = x.accepted
  rw [List.append_assoc, hp]; exact h4.2

theorem SndE.done {k : Nat} {x : Conn} {data : List Nat} (hd : data = []) (hx : SndE A B k data x) :
    Lv A B k x := by
  lv_start hx
  simp only [eqOut]
  rw [h4.1, ← h4.2, hd]

/-- a successful read(2): level 2 becomes level 1 -/
theorem Lv.deliver {x : Conn} {data : List Nat} (hx : Lv A B 2 x) :
    Lv A B 1 { x with buffer := data, delivered := x.delivered ++ data } := by
  rcases hx with h0 | hx
  · cases h0
  refine Or.inr (fun ho => ?_)
  obtain ⟨h1, h2, h3, h4⟩ := hx ho
  refine ⟨h1, fun h => absurd h (by decide), fun hA => ?_, h4⟩
  have := h3 hA
  simp only [eqIn] at this ⊢
  rw [h2 rfl, List.append_nil] at this
  rw [this]

theorem Lv.consume {k : Nat} {x : Conn} {j : Nat} (hx : Lv A B k x) :
    Lv A B k { x with consumed := x.consumed ++ (x.inbound ++ x.buffer).take j,
                      inbound := x.inbound.drop j, buffer := x.buffer.drop (j - x.inbound.length) } := by
  rcases hx with h0 | hx
  · exact Or.inl h0
  refine Or.inr (fun ho => ?_)
  obtain ⟨h1, h2, h3, h4⟩ := hx ho
  refine ⟨h1, fun hk => ?_, fun hA => ?_, h4⟩
  · show List.drop _ x.buffer = []
    rw [h2 hk]; exact List.drop_nil
  · have := h3 hA
    simp only [eqIn] at this ⊢
    rw [List.append_assoc, List.append_assoc, ← List.drop_append, List.take_append_drop, ← List.append_assoc]
    exact this

/-- the rest of the read moves to the inbound buffer: level 1 becomes level 2 -/
theorem Lv.handover {k : Nat} {x : Conn} (hk : 1 ≤ k) (hx : Lv A B k x) :
    Lv A B 2 { x with inbound := x.inbound ++ x.buffer, buffer := [] } := by
  rcases hx with h0 | hx
  · omega
  refine Or.inr (fun ho => ?_)
  obtain ⟨h1, h2, h3, h4⟩ := hx ho
  refine ⟨h1, fun _ => rfl, fun hA => ?_, h4⟩
  have := h3 hA
  simp only [eqIn] at this ⊢
  rw [List.append_nil, ← List.append_assoc]; exact this

def AfterRead (A B : Prop) (r : Ret) (x : Conn) : Prop := Lv A B 1 x ∧ (r.code ≠ .shutdown → Lv A B 2 x)

theorem AfterRead.of_two {r : Ret} {x : Conn} (h : Lv A B 2 x) : AfterRead A B r x :=
  ⟨Lv.of_two h, fun _ => h⟩

theorem Good.rested {ko : Nat} {s : RState} {c : String} {r : Ret} (hG : Good A B ko s c (Lv A B 2)) :
    Good A B ko s c (AfterRead A B r) := hG.mono fun _ => AfterRead.of_two

/-- a freshly accepted connection before registration -/
def Raw0 (A B : Prop) (x : Conn) : Prop := x.buffer = [] ∧ (A → eqIn x) ∧ (B → eqOut x)
def Raw1 (A B : Prop) (x : Conn) : Prop := x.registered = true ∧ Raw0 A B x

theorem Raw0.fresh : Raw0 A B {} := ⟨rfl, fun _ => rfl, fun _ => rfl⟩

theorem Raw1.open {x : Conn} (h : Raw1 A B x) : Lv A B 2 { x with opened := true } :=
  Or.inr (fun _ => ⟨h.1, fun _ => h.2.1, h.2.2.1, h.2.2.2⟩)

/-- `h` is the guard of the flushing writes as the model has it -/
theorem offered_prefix {d o : List Nat} {b : Bool}
    (h : ¬ (!(d == o || (b && d == o.take d.length && !d.isEmpty))) = true) : d = o.take d.length := by
  by_cases hd : d = o
  · rw [hd, List.take_length]
  · simp [hd] at h; exact h.1.2

theorem dropSegs_flatten (segs : List (List Nat)) (n : Nat) :
    (dropSegs segs n).flatten = segs.flatten.drop n := by
  induction segs generalizing n with
  | nil => simp [dropSegs]
  | cons b rest ih =>
    unfold dropSegs
    split
    · rename_i hlt
      rw [List.flatten_cons, List.flatten_cons, List.drop_append_of_le_length (Nat.le_of_lt hlt)]
    · rename_i hge
      rw [ih, List.flatten_cons, List.drop_append]
      have : List.drop n b = [] := List.drop_eq_nil_of_le (Nat.le_of_not_lt hge)
      rw [this, List.nil_append]

theorem writev_split {segs : List (List Nat)} {m k : Nat} {d : List Nat} (hd : d = (segs.take m).flatten)
    (hk : k ≤ d.length) : d.take k ++ (dropSegs segs k).flatten = segs.flatten := by
  subst hd
  rw [dropSegs_flatten, ← List.take_append_of_le_length (l₂ := (segs.drop m).flatten) hk,
    ← List.flatten_append, List.take_append_drop, List.take_append_drop]

end Gnet.Reactor
